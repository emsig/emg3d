import Emg3dVerif.Model.Maps
import Emg3dVerif.Model.Amat
import Mathlib.Analysis.SpecialFunctions.Pow.Real
import Mathlib.Analysis.SpecialFunctions.Log.Base
import Mathlib.Analysis.SpecialFunctions.Log.Deriv
import Mathlib.Analysis.SpecialFunctions.ExpDeriv
import Mathlib.Analysis.SpecialFunctions.Pow.Deriv
import Mathlib.Analysis.Calculus.Deriv.Inv
/-!
# C14 — the physical model is invariant under the property mapping; chain rule exact

The six mappings of `emg3d.maps` as real functions (`forward`: conductivity → parameter,
`backward`: parameter → conductivity, `chain`: the multiplier of `derivative_chain`), tied to
the code by the float correspondence of `harness/c14.py`; the accept/reject logic of the model
validation as a decision table over float classes.
-/
open Real
namespace MapsM

noncomputable instance : Elem ℝ where
  ln := Real.log
  lg := Real.logb 10
  ex := Real.exp
  p10 := fun x => (10:ℝ) ^ x
  ln10 := Real.log 10

@[simp] theorem ln_eq (x : ℝ) : Elem.ln x = Real.log x := rfl
@[simp] theorem lg_eq (x : ℝ) : Elem.lg x = Real.logb 10 x := rfl
@[simp] theorem ex_eq (x : ℝ) : Elem.ex x = Real.exp x := rfl
@[simp] theorem p10_eq (x : ℝ) : Elem.p10 x = (10:ℝ) ^ x := rfl
@[simp] theorem ln10_eq : (Elem.ln10 : ℝ) = Real.log 10 := rfl

/-- **mapping forth and back is the identity on positive conductivities** -/
theorem backward_forward (m : Mapping) (s : ℝ) (hs : 0 < s) : backward m (forward m s) = s := by
  have h10 : (0:ℝ) < 10 := by norm_num
  have h10' : (10:ℝ) ≠ 1 := by norm_num
  cases m <;> simp only [forward, backward, Elem.lg, Elem.ln, Elem.ex, Elem.p10]
  · exact rpow_logb h10 h10' hs
  · exact exp_log hs
  · rw [one_div, one_div, inv_inv]
  · rw [one_div, logb_inv, neg_neg]; exact rpow_logb h10 h10' hs
  · rw [one_div, log_inv, neg_neg]; exact exp_log hs

/-- **mapping back and forth is the identity** on the domain of the parameter -/
theorem forward_backward (m : Mapping) (x : ℝ) (hx : m = .resistivity ∨ m = .conductivity → 0 < x) :
    forward m (backward m x) = x := by
  have h10 : (0:ℝ) < 10 := by norm_num
  have h10' : (10:ℝ) ≠ 1 := by norm_num
  cases m <;> simp only [forward, backward, Elem.lg, Elem.ln, Elem.ex, Elem.p10]
  · exact logb_rpow h10 h10'
  · exact log_exp x
  · rw [one_div, one_div, inv_inv]
  · rw [one_div, ← rpow_neg (le_of_lt h10), neg_neg]; exact logb_rpow h10 h10'
  · rw [one_div, ← exp_neg, neg_neg]; exact log_exp x

/-- every parameter value maps back to a positive conductivity (for the reciprocal and identity
maps: every positive one) -/
theorem backward_pos (m : Mapping) (x : ℝ) (hx : m = .resistivity ∨ m = .conductivity → 0 < x) :
    0 < backward m x := by
  cases m <;> simp only [backward, Elem.ex, Elem.p10]
  · exact hx (Or.inr rfl)
  · exact rpow_pos_of_pos (by norm_num) x
  · exact exp_pos x
  · exact one_div_pos.2 (hx (Or.inl rfl))
  · exact rpow_pos_of_pos (by norm_num) _
  · exact exp_pos _

/-- **the gradient conversion factor is the derivative of the conductivity with respect to the
mapped parameter** -/
theorem chain_is_derivative (m : Mapping) (x : ℝ) (hx : m = .resistivity → x ≠ 0) :
    HasDerivAt (backward m) (chain m x) x := by
  have h10 : (0:ℝ) < 10 := by norm_num
  -- each `show`: the derivative Mathlib's rule produces = `chain` unfolded
  cases m
  · exact hasDerivAt_id' x
  · exact ((hasDerivAt_id' x).const_rpow h10).congr_deriv
      (by show log 10 * 1 * (10:ℝ) ^ x = (10:ℝ) ^ x * log 10; ring)
  · exact Real.hasDerivAt_exp x
  · have e : (backward .resistivity : ℝ → ℝ) = fun y => y⁻¹ := funext one_div
    rw [e]
    exact (hasDerivAt_inv (hx rfl)).congr_deriv
      (by show -(x ^ 2)⁻¹ = -(1 / x * (1 / x)); ring)
  · exact ((hasDerivAt_id' x).neg.const_rpow h10).congr_deriv
      (by show log 10 * -1 * (10:ℝ) ^ (-x) = -((10:ℝ) ^ (-x)) * log 10; ring)
  · exact ((hasDerivAt_id' x).neg.exp).congr_deriv
      (by show exp (-x) * -1 = -exp (-x); ring)

/-- **the solver coefficients do not depend on the parametrisation**: `VolumeModel`'s `η` computed
from the mapped parameter of any mapping equals the one computed from the conductivity -/
theorem eta_mapping_invariant (m : Mapping) (sigma smu0 seps0 epsr vol : ℝ) (hs : 0 < sigma) :
    Emg.etaCoef smu0 seps0 (backward m (forward m sigma)) epsr vol
      = Emg.etaCoef smu0 seps0 sigma epsr vol := by
  rw [backward_forward m sigma hs]

/-! ## validation -/

theorem gtZero_eq_false (c : Cls) :
    gtZero c = false ↔ c = .neg ∨ c = .zero ∨ c = .ninf ∨ c = .nan := by
  cases c <;> simp [gtZero]

theorem gtZero_eq_true (c : Cls) : gtZero c = true ↔ c = .pos ∨ c = .pinf := by
  cases c <;> simp [gtZero]

theorem isFinite_of_gtZero {c : Cls} (h : gtZero c = true) :
    (isFinite c = true ↔ c = .pos) ∧ (isFinite c = false ↔ c = .pinf) := by
  cases c <;> simp [gtZero, isFinite] at h ⊢

/-- the three verdicts of `check false` in terms of the two tests -/
theorem check_false (l : List Cls) :
    (check false l = .ok ↔ l.all gtZero = true ∧ l.all isFinite = true) ∧
    (check false l = .errPositive ↔ l.all gtZero = false) ∧
    (check false l = .errFinite ↔ l.all gtZero = true ∧ l.all isFinite = false) := by
  unfold check
  cases l.all gtZero <;> cases l.all isFinite <;> simp

/-- **a parameter is accepted iff all its values are positive and finite on the conductivity
scale** (construction and assignment alike) -/
theorem accept_iff_pos_finite (mapped : List Cls) :
    check false mapped = .ok ↔ ∀ c ∈ mapped, c = .pos := by
  rw [(check_false mapped).1, List.all_eq_true, List.all_eq_true]
  constructor
  · intro h c hc
    exact (isFinite_of_gtZero (h.1 c hc)).1.1 (h.2 c hc)
  · intro h
    constructor <;> intro c hc <;> rw [h c hc] <;> rfl

/-- which error is raised: a value that is not `> 0` (negative, zero, −∞, NaN) gives the
"bigger than zero" error; otherwise an infinite value gives the "finite" error -/
theorem reject_reason (mapped : List Cls) :
    (check false mapped = .errPositive ↔ ∃ c ∈ mapped, c = .neg ∨ c = .zero ∨ c = .ninf ∨ c = .nan) ∧
    (check false mapped = .errFinite ↔
      (∀ c ∈ mapped, c = .pos ∨ c = .pinf) ∧ ∃ c ∈ mapped, c = .pinf) := by
  constructor
  · rw [(check_false mapped).2.1, List.all_eq_false]
    simp only [Bool.not_eq_true, gtZero_eq_false]
  · rw [(check_false mapped).2.2, List.all_eq_true, List.all_eq_false]
    simp only [gtZero_eq_true, Bool.not_eq_true]
    constructor
    · rintro ⟨h, c, hc, hf⟩
      exact ⟨h, c, hc, (isFinite_of_gtZero ((gtZero_eq_true c).2 (h c hc))).2.1 hf⟩
    · rintro ⟨h, c, hc, rfl⟩
      exact ⟨h, _, hc, rfl⟩

/-- a parameter that was not given at construction cannot be set afterwards -/
theorem cannot_set_uninitialised (mapped : List Cls) : check true mapped = .errNotSet := rfl

end MapsM
