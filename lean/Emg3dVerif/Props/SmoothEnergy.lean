import Emg3dVerif.Props.CyclePEC
import Mathlib.Algebra.Order.Field.Basic
import Mathlib.Algebra.Order.BigOperators.Group.Finset
import Mathlib.Tactic.Linarith
import Mathlib.Tactic.Positivity
set_option linter.unusedSectionVars false
/-!
# Laplace domain: no smoother can increase the energy norm of the error (C06, part)

C06 asks for grid-independent convergence of the multigrid cycle.  The rate itself is a property
of floating-point numerics on families of problems and is measured (harness/c06.py); what *can*
be proved about the model, for every grid, model, start field and relaxation pattern, is the
part of the classical convergence argument that rests on the smoother:

in the Laplace domain (`s > 0`: all `η = −sμ₀(σ + sε)V ≤ 0` real, `ζ = V/μ_r ≥ 0`) the operator
is symmetric (C02, `amat_symmetric`) and positive semi-definite (`energy_nonneg`, from the
energy identity `edgeDot_fit`), and every block relaxation — point-wise or along a line, forward
or backward, solvable block or not — is an `A`-orthogonal projection of the error:

* `relaxBlock_energy`: `‖e − e*‖²_A = ‖e' − e*‖²_A + ‖e − e'‖²_A` when the block is solved,
* `smoothingC_energy_le`, `smoothing_energy_le`: hence **no call of `solver.smoothing`, with any
  line-relaxation code and any number of sweeps, increases the energy norm of the error**.

Stated over any linearly ordered field (ℚ: the driver's arithmetic; ℝ: the Laplace-domain
solver, which runs on real arrays).  The frequency domain is complex-symmetric and not
Hermitian; no such statement holds there (and none is claimed).

Tie to the code: the smoother model is tied to `emg3d.core.gauss_seidel*` by the exact
correspondence of C03; `harness/c06.py`, suite `energy`, observes the statement on the jitted
kernels (float64, Laplace domain).
-/
namespace Emg
open Finset MGH

/-! ## the energy form and one block relaxation: what holds over every field -/
section algebra
variable {K : Type} [Field K] [DecidableEq K] {g : Grid K} {m : VM K}

/-- the energy `⟨A u, u⟩` -/
def energy (g : Grid K) (m : VM K) (u : EF K) : K := edgeDot g (amat g m u) u

theorem edgeDot_add_left (a b c : EF K) : edgeDot g (a.add b) c = edgeDot g a c + edgeDot g b c := by
  simp only [edgeDot, EF.add, add_mul, S3_add]
  ring

theorem edgeDot_add_right (a b c : EF K) : edgeDot g c (a.add b) = edgeDot g c a + edgeDot g c b := by
  rw [edgeDot_comm, edgeDot_add_left, edgeDot_comm g a, edgeDot_comm g b]

theorem PEC.add {a b : EF K} (ha : PEC g a) (hb : PEC g b) : PEC g (a.add b) :=
  pec_iff.2 fun q hq => by rw [EF.get_add, pec_iff.1 ha q hq, pec_iff.1 hb q hq, add_zero]

theorem PEC.smul {a : EF K} (c : K) (ha : PEC g a) : PEC g (EF.smul c a) :=
  pec_iff.2 fun q hq => by rw [EF.get_smul, pec_iff.1 ha q hq, mul_zero]

/-- Pythagoras in the energy form: `A`-orthogonal summands -/
theorem energy_add (u c : EF K) (hu : PEC g u) (hc : PEC g c)
    (horth : edgeDot g (amat g m u) c = 0) :
    energy g m (u.add c) = energy g m u + energy g m c := by
  unfold energy
  rw [amat_add, edgeDot_add_left, edgeDot_add_right, edgeDot_add_right,
    amat_symmetric g m c u hc hu, edgeDot_comm g c (amat g m u), horth]
  ring

theorem relaxBlock_false (g : Grid K) (m : VM K) (s e : EF K) (B : List Edge)
    (h : (relaxBlock g m s e B).2 = false) : (relaxBlock g m s e B).1 = e := by
  rcases relaxBlock_spec g m s e B with ⟨_, he⟩ | ⟨ht, _⟩
  · exact he
  · rw [ht] at h; cases h

theorem relaxBlock_pec (g : Grid K) (m : VM K) (s e : EF K) (B : List Edge)
    (hB : ∀ q ∈ B, Interior g.nx g.ny g.nz q) (he : PEC g e) : PEC g (relaxBlock g m s e B).1 :=
  pec_of_frame g e _ (fun q hq => relaxBlock_frame g m s e B q (fun hqB => hq (hB q hqB))) he

end algebra

variable {K : Type} [Field K] [LinearOrder K] [IsStrictOrderedRing K]

/-- Laplace-domain models: `ζ ≥ 0`, every `η` of the grid's cells `≤ 0` -/
structure PhysR (g : Grid K) (m : VM K) : Prop where
  zeta : ∀ i j k, 0 ≤ m.zeta i j k
  etaX : ∀ i j k, i < g.nx → j < g.ny → k < g.nz → m.etaX i j k ≤ 0
  etaY : ∀ i j k, i < g.nx → j < g.ny → k < g.nz → m.etaY i j k ≤ 0
  etaZ : ∀ i j k, i < g.nx → j < g.ny → k < g.nz → m.etaZ i j k ≤ 0

section
variable {g : Grid K} {m : VM K}

theorem energy_eq (u : EF K) (hu : PEC g u) :
    energy g m u = faceDot g (fluxX g m u) (fluxY g m u) (fluxZ g m u)
      (curlX g u) (curlY g u) (curlZ g u) - massDot g m u u := by
  unfold energy
  rw [edgeDot_amat_eq_fit g m u u hu, edgeDot_fit g m u u hu]

theorem PhysR.me_nonpos (h : PhysR g m) (q : Edge) (hq : Interior g.nx g.ny g.nz q) :
    meAt m q ≤ 0 := by
  have hadd : ∀ x y : K, x ≤ 0 → y ≤ 0 → x + y ≤ 0 := fun _ _ hx hy => add_nonpos hx hy
  have hdiv : ∀ x : K, x ≤ 0 → x / 4 ≤ 0 := fun _ hx =>
    div_nonpos_of_nonpos_of_nonneg hx (by norm_num)
  exact meAt_closed (fun z => z ≤ 0) hadd hdiv h.etaX h.etaY h.etaZ q hq

/-- each term of the mass sum is non-positive: `η ≤ 0` on interior edges, `u = 0` on the others -/
theorem mass_term_nonpos (h : PhysR g m) (u : EF K) (hu : PEC g u) (q : Edge) (hb : InBox g q) :
    meAt m q * u.get q * u.get q ≤ 0 := by
  by_cases hq : Interior g.nx g.ny g.nz q
  · rw [mul_assoc]
    exact mul_nonpos_of_nonpos_of_nonneg (h.me_nonpos q hq) (mul_self_nonneg _)
  · rw [hu.get_zero hb hq, mul_zero]

theorem massDot_nonpos (h : PhysR g m) (u : EF K) (hu : PEC g u) : massDot g m u u ≤ 0 := by
  rw [massDot_eq]
  exact edgeSum_nonpos g _ (mass_term_nonpos h u hu)

theorem face_nonneg (h : PhysR g m) (u : EF K) :
    0 ≤ faceDot g (fluxX g m u) (fluxY g m u) (fluxZ g m u) (curlX g u) (curlY g u) (curlZ g u) := by
  have hadd : ∀ x y : K, 0 ≤ x → 0 ≤ y → 0 ≤ x + y := fun _ _ hx hy => add_nonneg hx hy
  have hdiv : ∀ x : K, 0 ≤ x → 0 ≤ x / 2 := fun _ hx => div_nonneg hx (by norm_num)
  have hm : ∀ i j k, 0 ≤ mfX m i j k ∧ 0 ≤ mfY m i j k ∧ 0 ≤ mfZ m i j k :=
    mf_closed (fun z => 0 ≤ z) hadd hdiv h.zeta
  have sq : ∀ w c : K, 0 ≤ w → 0 ≤ w * c * c := fun w c hw => by
    rw [mul_assoc]; exact mul_nonneg hw (mul_self_nonneg c)
  unfold faceDot fluxX fluxY fluxZ
  exact add_nonneg (add_nonneg
    (S3_nonneg _ _ _ _ fun i j k _ _ _ => sq _ _ (hm i j k).1)
    (S3_nonneg _ _ _ _ fun i j k _ _ _ => sq _ _ (hm i j k).2.1))
    (S3_nonneg _ _ _ _ fun i j k _ _ _ => sq _ _ (hm i j k).2.2)

/-- **the operator is positive semi-definite on PEC fields** (Laplace domain) -/
theorem energy_nonneg (h : PhysR g m) (u : EF K) (hu : PEC g u) : 0 ≤ energy g m u := by
  rw [energy_eq u hu]
  linarith [massDot_nonpos h u hu, face_nonneg h u]

theorem PEC.sub {a b : EF K} (ha : PEC g a) (hb : PEC g b) : PEC g (a.sub b) :=
  PEC.add ha (PEC.smul (-1) hb)

end

/-! ## one block, a list of blocks, `smoothing` -/
section
variable (g : Grid K) (m : VM K)

/-- **a solved block relaxation is an `A`-orthogonal projection of the error**:
`‖e − e*‖²_A = ‖e' − e*‖²_A + ‖e − e'‖²_A` -/
theorem relaxBlock_energy (s e estar : EF K) (B : List Edge)
    (hB : ∀ q ∈ B, Interior g.nx g.ny g.nz q) (he : PEC g e) (hs : PEC g estar)
    (hsol : ∀ q, Interior g.nx g.ny g.nz q → amatAt g m estar q = s.get q)
    (hok : (relaxBlock g m s e B).2 = true) :
    energy g m (e.sub estar) = energy g m ((relaxBlock g m s e B).1.sub estar)
      + energy g m (e.sub (relaxBlock g m s e B).1) := by
  have hpe' := relaxBlock_pec g m s e B hB he
  have hdecomp : e.sub estar
      = ((relaxBlock g m s e B).1.sub estar).add (e.sub (relaxBlock g m s e B).1) :=
    EF.ext_get _ _ fun q => by simp only [EF.get_add, EF.get_sub]; ring
  rw [hdecomp]
  -- the summands are `A`-orthogonal: on the block the rows of `A (e' − e*)` vanish, off the
  -- block `e − e'` does
  refine energy_add _ _ (PEC.sub hpe' hs) (PEC.sub he hpe')
    (edgeDot_zero_of_pointwise _ _ fun q _ => ?_)
  by_cases hq : q ∈ B
  · show amatAt g m _ q * _ = 0
    rw [amatAt_sub, relaxBlock_solves g m s e B hok q hq, hsol q (hB q hq), sub_self, zero_mul]
  · rw [EF.get_sub, relaxBlock_frame g m s e B q hq, sub_self, mul_zero]

/-- **one block relaxation never increases the energy norm of the error** (solved or not) -/
theorem relaxBlock_energy_le (h : PhysR g m) (s e estar : EF K) (B : List Edge)
    (hB : ∀ q ∈ B, Interior g.nx g.ny g.nz q) (he : PEC g e) (hs : PEC g estar)
    (hsol : ∀ q, Interior g.nx g.ny g.nz q → amatAt g m estar q = s.get q) :
    energy g m ((relaxBlock g m s e B).1.sub estar) ≤ energy g m (e.sub estar) ∧
      PEC g (relaxBlock g m s e B).1 := by
  have hpe' := relaxBlock_pec g m s e B hB he
  refine ⟨?_, hpe'⟩
  cases hok : (relaxBlock g m s e B).2 with
  | false => rw [relaxBlock_false g m s e B hok]
  | true =>
    rw [relaxBlock_energy g m s e estar B hB he hs hsol hok]
    have := energy_nonneg h (e.sub (relaxBlock g m s e B).1) (PEC.sub he hpe')
    linarith

theorem relaxAll_energy_le (h : PhysR g m) (s estar : EF K) (hs : PEC g estar)
    (hsol : ∀ q, Interior g.nx g.ny g.nz q → amatAt g m estar q = s.get q)
    (Bs : List (List Edge)) (hBs : ∀ B ∈ Bs, ∀ q ∈ B, Interior g.nx g.ny g.nz q) :
    ∀ st : EF K × Bool, PEC g st.1 →
      energy g m ((relaxAll g m s st Bs).1.sub estar) ≤ energy g m (st.1.sub estar) := by
  induction Bs with
  | nil => intro st _; exact le_refl _
  | cons B Bs ih =>
    intro st hst
    obtain ⟨e, ok⟩ := st
    simp only [relaxAll]
    have h1 := relaxBlock_energy_le g m h s e estar B (hBs B List.mem_cons_self) hst hs hsol
    exact le_trans (ih (fun C hC => hBs C (List.mem_cons_of_mem _ hC)) _ h1.2) h1.1

/-- **Laplace domain: no call of `solver.smoothing` increases the energy norm of the error** —
every (adapted) line-relaxation code, every number of sweeps, every grid, every model with
`ζ ≥ 0 ≥ η`, every source with exact solution `e*`, every PEC start field. -/
theorem smoothingC_energy_le (h : PhysR g m) (s e estar : EF K) (nu clr : ℕ)
    (he : PEC g e) (hs : PEC g estar)
    (hsol : ∀ q, Interior g.nx g.ny g.nz q → amatAt g m estar q = s.get q) :
    energy g m ((smoothingC g m s e nu clr).1.sub estar) ≤ energy g m (e.sub estar) :=
  relaxAll_energy_le g m h s estar hs hsol _ (smoothingC_blocks_interior _ _ _ _ _) (e, true) he

/-- … the same for `smoothing` with the user's code `lrDir` (adapted to the grid inside) -/
theorem smoothing_energy_le (h : PhysR g m) (s e estar : EF K) (nu lrDir : ℕ)
    (he : PEC g e) (hs : PEC g estar)
    (hsol : ∀ q, Interior g.nx g.ny g.nz q → amatAt g m estar q = s.get q) :
    energy g m ((smoothing g m s e nu lrDir).1.sub estar) ≤ energy g m (e.sub estar) :=
  smoothingC_energy_le g m h s e estar nu _ he hs hsol

/-- a single kernel call (`gauss_seidel`, `gauss_seidel_x/y/z`) -/
theorem kernel_energy_le (h : PhysR g m) (s e estar : EF K) (kernel nu : ℕ) (ok : Bool)
    (he : PEC g e) (hs : PEC g estar)
    (hsol : ∀ q, Interior g.nx g.ny g.nz q → amatAt g m estar q = s.get q) :
    energy g m ((runKernel g m s kernel nu (e, ok)).1.sub estar) ≤ energy g m (e.sub estar) :=
  relaxAll_energy_le g m h s estar hs hsol _ (kernelBlocks_interior _ _ _ _ _) (e, ok) he

end

/-! ## the whole hierarchy: the class of Laplace-domain models is closed under coarsening -/
section closure
variable {g : Grid K} {m : VM K}

/-- the coarse model of `solver.restriction` (sums over the children) is again a Laplace-domain
model -/
theorem PhysR.coarse (h : PhysR g m) (csc : ℕ) : PhysR (coarseGrid csc g) (coarseVM csc g m) := by
  have hadd : ∀ x y : K, x ≤ 0 → y ≤ 0 → x + y ≤ 0 := fun _ _ hx hy => add_nonpos hx hy
  have hadd' : ∀ x y : K, 0 ≤ x → 0 ≤ y → 0 ≤ x + y := fun _ _ hx hy => add_nonneg hx hy
  rw [coarseVM_eq]
  exact ⟨restrictParam_closed_all (fun z => 0 ≤ z) hadd' csc g _ h.zeta,
    restrictParam_closed (fun z => z ≤ 0) hadd csc g _ h.etaX,
    restrictParam_closed (fun z => z ≤ 0) hadd csc g _ h.etaY,
    restrictParam_closed (fun z => z ≤ 0) hadd csc g _ h.etaZ⟩

theorem PhysR.reach {g0 : Grid K} {m0 : VM K} (h : PhysR g0 m0) {g : Grid K} {m : VM K}
    (hr : Reach g0 m0 g m) : PhysR g m :=
  Reach.closed PhysR (fun _ _ csc hc => hc.coarse csc) h hr

/-- **on every level the recursion can reach** — every semicoarsening pattern, every depth —
smoothing does not increase the energy norm of that level's error -/
theorem smoothingC_energy_le_reach {g0 : Grid K} {m0 : VM K} (h : PhysR g0 m0)
    {g : Grid K} {m : VM K} (hr : Reach g0 m0 g m) (s e estar : EF K) (nu clr : ℕ)
    (he : PEC g e) (hs : PEC g estar)
    (hsol : ∀ q, Interior g.nx g.ny g.nz q → amatAt g m estar q = s.get q) :
    energy g m ((smoothingC g m s e nu clr).1.sub estar) ≤ energy g m (e.sub estar) :=
  smoothingC_energy_le g m (h.reach hr) s e estar nu clr he hs hsol

end closure

/-! ## non-vacuity -/

/-- a Laplace-domain model on a 2×2×2 grid over ℚ -/
example : PhysR (K := ℚ) ⟨2, 2, 2, fun _ => 1, fun _ => 1, fun _ => 1⟩
    ⟨fun _ _ _ => -1, fun _ _ _ => -2, fun _ _ _ => -3, fun _ _ _ => 1⟩ := by
  constructor <;> intros <;> norm_num

end Emg
