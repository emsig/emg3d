import Emg3dVerif.Model.Layered
import Mathlib.Algebra.Order.Field.Basic
import Mathlib.Tactic.Ring
import Mathlib.Analysis.SpecialFunctions.Pow.Real
import Mathlib.Analysis.SpecialFunctions.Log.Base
/-!
# C19 — layered mode agrees with the 1-D reference modeller

Theorems about the model `Lay` of `Model.extract_1d`, the slot routing of
`_multiprocessing.layered` and `_fd_gradient`.
-/
set_option linter.unusedSectionVars false
namespace Lay

section sums
variable {K : Type} [Field K]

/-- the model's hand-rolled sum is Mathlib's sum over `Finset.range`; everything about `sumTo` and
`total` below is read off `Finset.sum` through this -/
theorem sumTo_eq_sum (n : Nat) (f : Nat → K) : sumTo n f = ∑ i ∈ Finset.range n, f i := by
  induction n with
  | zero => rfl
  | succ n ih => rw [sumTo, ih, Finset.sum_range_succ]

theorem total_eq_sum (nx ny : Nat) (f : Nat → Nat → K) :
    total nx ny f = ∑ i ∈ Finset.range nx, ∑ j ∈ Finset.range ny, f i j := by
  simp only [total, sumTo_eq_sum]

theorem total_mul_right (nx ny : Nat) (f : Nat → Nat → K) (c : K) :
    total nx ny (fun i j => f i j * c) = total nx ny f * c := by
  simp only [total_eq_sum, Finset.sum_mul]

end sums

section field
variable {K : Type} [Field K] [LinearOrder K] [IsStrictOrderedRing K]

theorem sumTo_add (n : Nat) (f g : Nat → K) :
    sumTo n (fun i => f i + g i) = sumTo n f + sumTo n g := by
  simp only [sumTo_eq_sum, Finset.sum_add_distrib]

theorem pp_nonneg (hx hy : Nat → K) (rect use : Nat → Nat → Bool) (cyl : Bool)
    (h1 : ∀ i, 0 ≤ hx i) (h2 : ∀ j, 0 ≤ hy j) (i j : Nat) : 0 ≤ pp hx hy rect use cyl i j := by
  unfold pp
  split
  · exact mul_nonneg (h1 i) (h2 j)
  · exact le_refl _

/-- **extraction weights are non-negative** -/
theorem imat_nonneg (nx ny : Nat) (hx hy : Nat → K) (rect use : Nat → Nat → Bool) (cyl : Bool)
    (h1 : ∀ i, 0 ≤ hx i) (h2 : ∀ j, 0 ≤ hy j) (i j : Nat) :
    0 ≤ imat nx ny hx hy rect use cyl i j := by
  have hp := pp_nonneg hx hy rect use cyl h1 h2
  apply div_nonneg (hp i j)
  rw [total_eq_sum]
  exact Finset.sum_nonneg fun i _ => Finset.sum_nonneg fun j _ => hp i j

/-- **extraction weights sum to one** (whenever the selection is not empty) -/
theorem imat_sum_one (nx ny : Nat) (hx hy : Nat → K) (rect use : Nat → Nat → Bool) (cyl : Bool)
    (ht : total nx ny (pp hx hy rect use cyl) ≠ 0) :
    total nx ny (imat nx ny hx hy rect use cyl) = 1 := by
  unfold imat
  simp only [div_eq_mul_inv]
  rw [total_mul_right]
  exact mul_inv_cancel₀ ht

/-- the midpoint weights sum to one as well -/
theorem midMat_sum_one (nx ny i0 j0 : Nat) (hi : i0 < nx) (hj : j0 < ny) :
    total nx ny (midMat (K := K) i0 j0) = 1 := by
  simp only [total_eq_sum, midMat, ite_and, Finset.sum_ite_irrel, Finset.sum_const_zero,
    Finset.sum_ite_eq', Finset.mem_range, hi, hj, if_true]

/-- **a laterally invariant layer is reproduced** by every extraction method: any weights that
sum to one return the layer value -/
theorem avg_const (nx ny : Nat) (w : Nat → Nat → K) (c : K) (hw : total nx ny w = 1) :
    avg nx ny w (fun _ _ => c) = c := by
  unfold avg
  rw [total_mul_right, hw, one_mul]

/-- **the layered gradient, summed over a layer, is the gradient of that layer** -/
theorem spread_layer_sum (nx ny : Nat) (w : Nat → Nat → K) (grad : Nat → K) (k : Nat)
    (hw : total nx ny w = 1) : total nx ny (fun i j => spread w grad i j k) = grad k :=
  avg_const nx ny w (grad k) hw

/-- … and that gradient is the difference quotient of the misfit under a uniform relative
perturbation of the layer -/
theorem fdGrad_quotient (cond : Nat → K) (rel : K) (misfitOf : (Nat → K) → K) (iz : Nat) :
    fdGrad cond rel misfitOf (misfitOf cond) iz =
      (misfitOf (fun k => if k = iz then cond k * (1 + rel) else cond k) - misfitOf cond)
        / (cond iz * rel) := by
  have : ∀ k, (if k = iz then cond k + cond iz * rel else cond k) =
      if k = iz then cond k * (1 + rel) else cond k := by
    intro k
    split
    · next h => rw [h, mul_one_add]
    · rfl
  simp only [fdGrad, this]

end field

/-! ## log-scale averaging (mappings that are not logarithmic) -/

/-- for the linear mappings the layer value is `10^(Σ w·log₁₀ v)`: again the layer value itself
for a laterally invariant (positive) layer -/
theorem logavg_const (nx ny : Nat) (w : Nat → Nat → ℝ) (c : ℝ) (hc : 0 < c)
    (hw : total nx ny w = 1) :
    (10:ℝ) ^ (avg nx ny w (fun _ _ => Real.logb 10 c)) = c := by
  rw [avg_const nx ny w _ hw]
  exact Real.rpow_logb (by norm_num) (by norm_num) hc

/-! ## merge -/
section merge
variable {K : Type} [DecidableEq K] [OfNat K 0]

theorem differs_iff (props : List (Nat → K)) (k : Nat) :
    differs props k = true ↔ ∃ p ∈ props, p k ≠ p (k+1) := by
  simp only [differs, List.any_eq_true, decide_eq_true_eq]

theorem succ_mem_mergeIdx (props : List (Nat → K)) (nz m : Nat) :
    m + 1 ∈ mergeIdx props nz ↔ m < nz - 1 ∧ differs props m = true := by
  simp only [mergeIdx, List.mem_cons, Nat.succ_ne_zero, false_or, List.mem_map, List.mem_filter,
    List.mem_range, Nat.add_right_cancel_iff, exists_eq_right]

/-- **merging keeps the layering**: every layer has, in every property, the value of the first
layer of its run of equal layers … -/
theorem merge_value (props : List (Nat → K)) (p : Nat → K) (hp : p ∈ props) :
    ∀ k, p k = p (startOf props k) := by
  intro k
  fun_induction startOf props k with
  | case1 => rfl
  | case2 k h => rfl
  | case3 k h ih =>
    rw [← ih]
    exact (Decidable.not_not.1 fun hne => h ((differs_iff props k).2 ⟨p, hp, hne⟩)).symm

/-- … and that first layer is one of the layers kept by the merge -/
theorem startOf_mem (props : List (Nat → K)) (nz : Nat) :
    ∀ k, k < nz → startOf props k ∈ mergeIdx props nz := by
  intro k hk
  fun_induction startOf props k with
  | case1 => exact List.mem_cons_self
  | case2 k h => exact (succ_mem_mergeIdx props nz k).2 ⟨by omega, h⟩
  | case3 k h ih => exact ih (by omega)

theorem startOf_le (props : List (Nat → K)) : ∀ k, startOf props k ≤ k := by
  intro k
  fun_induction startOf props k with
  | case1 => exact le_rfl
  | case2 k h => exact le_rfl
  | case3 k h ih => exact Nat.le_succ_of_le ih

/-- a kept index other than the first really is a change: no two merged layers are equal in all
properties -/
theorem mergeIdx_changes (props : List (Nat → K)) (nz m : Nat) (hm : m + 1 ∈ mergeIdx props nz) :
    ∃ p ∈ props, p m ≠ p (m+1) :=
  (differs_iff props m).1 ((succ_mem_mergeIdx props nz m).1 hm).2

end merge

/-! ## slots -/

theorem rank_lt {nf : Nat} (fin : Nat → Nat → Bool) (r f : Nat) (hf : f < nf) (h : fin r f = true) :
    rank fin r f < (usedFreqs nf fin r).length := by
  unfold rank usedFreqs
  -- `f` itself is counted among `range (f+1)`, which is an initial piece of `range nf`
  calc ((List.range f).filter (fin r)).length
      < ((List.range (f+1)).filter (fin r)).length := by
        rw [List.range_succ, List.filter_append, List.filter_singleton, h, List.length_append]
        exact Nat.lt_succ_self _
    _ ≤ _ := ((List.range_sublist.2 hf).filter _).length_le

/-- **a slot is written exactly for the finite observed data** (all slots if there are none),
provided the reference modeller returns one value per requested frequency -/
theorem slots_written_iff_finite {R : Type} (nf : Nat) (fin : Nat → Nat → Bool)
    (resp : Nat → List Nat → List R) (hlen : ∀ r fs, (resp r fs).length = fs.length)
    (r f : Nat) (hf : f < nf) :
    (responses nf fin resp r f).isSome = fin r f := by
  unfold responses
  by_cases h : fin r f = true
  · simp only [h, if_true]
    have := rank_lt fin r f hf h
    rw [← hlen r] at this
    simp [List.getElem?_eq_getElem this]
  · have h' : fin r f = false := by simpa using h
    simp [h']

/-- the frequencies handed to the reference modeller are exactly the finite ones, in order -/
theorem usedFreqs_spec (nf : Nat) (fin : Nat → Nat → Bool) (r f : Nat) :
    f ∈ usedFreqs nf fin r ↔ f < nf ∧ fin r f = true := by
  unfold usedFreqs
  simp [List.mem_filter]

end Lay
