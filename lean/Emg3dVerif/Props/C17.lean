import Emg3dVerif.Model.IoTree
/-!
# C17 — save and load round-trip every object in every file format

Theorems about the tree model `IoT` of `emg3d.io` (ordered dictionaries, leaves canonicalised).
Core Lean only.
-/
namespace IoT

/-! ## well-formedness (the documented limitations) -/

mutual
/-- no registered-class instance inside (what `to_dict()` returns, and what is in a file) -/
def PlainT : Tree → Prop
  | .leaf _ => True
  | .node f => PlainF f
  | .obj _ => False
def PlainF : Forest → Prop
  | .nil => True
  | .cons _ t r => PlainT t ∧ PlainF r
end

mutual
/-- the string 'NoneType' does not occur as a value -/
def NoNT_T : Tree → Prop
  | .leaf l => l ≠ .str noneType
  | .node f => NoNT_F f
  | .obj f => NoNT_F f
def NoNT_F : Forest → Prop
  | .nil => True
  | .cons _ t r => NoNT_T t ∧ NoNT_F r
end

mutual
/-- user dictionaries do not look like a registered class; instances do -/
def ClsT (known : String → Bool) : Tree → Prop
  | .leaf _ => True
  | .node f => classOf known f = none ∧ ClsF known f
  | .obj f => (classOf known f).isSome ∧ ClsF known f
def ClsF (known : String → Bool) : Forest → Prop
  | .nil => True
  | .cons _ t r => ClsT known t ∧ ClsF known r
end

/-! ## serialise / None handling / de-serialise -/

/-- on leaves `_nonetype_to_none` undoes `_dict_serialize`, unless the leaf is the string
'NoneType' itself -/
theorem nonT_serT_leaf (l : Leaf) (h : l ≠ .str noneType) : nonT (serT (.leaf l)) = .leaf l := by
  cases l with
  | str s =>
    have : s ≠ noneType := fun e => h (by rw [e])
    simp [serT, nonT, this]
  | _ => simp [serT, nonT]

/-- the one equation of `classOf` the proofs need -/
theorem classOf_cons (known : String → Bool) (k : Key) (t : Tree) (r : Forest) :
    classOf known (.cons k t r) = if k = classKey then
      (match t with
        | .leaf (.str c) => if known c then some c else none
        | _ => none) else classOf known r := by
  unfold classOf
  simp only [Forest.lookup]
  by_cases h : k = classKey
  · simp only [h, if_true]
    cases t with
    | leaf l => cases l <;> rfl
    | _ => rfl
  · simp only [h, if_false]

theorem classOf_non_ser (known : String → Bool) : ∀ f : Forest, NoNT_F f →
    classOf known (nonF (serF f)) = classOf known f
  | .nil, _ => rfl
  | .cons k t r, hn => by
    simp only [serF, nonF, classOf_cons]
    rw [classOf_non_ser known r hn.2]
    cases t with
    | leaf l => rw [nonT_serT_leaf l hn.1]
    | node f => rfl
    | obj f => rfl

mutual
theorem nonT_serT_plain : ∀ t : Tree, PlainT t → NoNT_T t → nonT (serT t) = t
  | .leaf l, _, hn => nonT_serT_leaf l hn
  | .node f, hp, hn => by
    simp only [serT, nonT]
    rw [nonF_serF_plain f hp hn]
  | .obj _, hp, _ => absurd hp (by simp [PlainT])
theorem nonF_serF_plain : ∀ f : Forest, PlainF f → NoNT_F f → nonF (serF f) = f
  | .nil, _, _ => rfl
  | .cons k t r, hp, hn => by
    simp only [serF, nonF]
    rw [nonT_serT_plain t hp.1 hn.1, nonF_serF_plain r hp.2 hn.2]
end

theorem classOf_plain_roundtrip (known : String → Bool) (f : Forest) (hp : PlainF f)
    (hn : NoNT_F f) : classOf known (nonF (serF f)) = classOf known f :=
  classOf_non_ser known f hn

mutual
/-- serialise, restore `None`, de-serialise: the identity on well-formed values -/
theorem des_non_ser_T (known : String → Bool) : ∀ t : Tree, NoNT_T t → ClsT known t →
    desT known (nonT (serT t)) = t
  | .leaf l, hn, _ => by rw [nonT_serT_leaf l hn]; rfl
  | .node f, hn, hc => by
    simp only [serT, nonT, desT]
    rw [classOf_non_ser known f hn, hc.1, des_non_ser_F known f hn hc.2]
    rfl
  | .obj f, hn, hc => by
    simp only [serT, nonT, desT]
    rw [classOf_non_ser known f hn, if_pos hc.1, des_non_ser_F known f hn hc.2]
theorem des_non_ser_F (known : String → Bool) : ∀ f : Forest, NoNT_F f → ClsF known f →
    desF known (nonF (serF f)) = f
  | .nil, _, _ => rfl
  | .cons k t r, hn, hc => by
    simp only [serF, nonF, desF]
    rw [des_non_ser_T known t hn.1 hc.1, des_non_ser_F known r hn.2 hc.2]
end

/-- **HDF5 / any order-preserving hierarchical back end**: `load ∘ save` is the identity -/
theorem load_save_h5 (c : Codec) (known : String → Bool) (f : Forest)
    (hn : NoNT_F f) (hc : ClsF known f) : load c known (save c .h5 f) = f := by
  simp only [save, load]
  exact des_non_ser_F known f hn hc

/-! ## JSON -/

mutual
theorem comp_dearr_T (c : Codec) (hc : ∀ l, c.dec (c.enc l).1 (c.enc l).2 = l) :
    ∀ t : Tree, PlainT t → compT c (dearrT c t) = t
  | .leaf l, _ => by simp [dearrT, compT, hc]
  | .node f, hp => by simp only [dearrT, compT]; rw [comp_dearr_F c hc f hp]
  | .obj _, hp => absurd hp (by simp [PlainT])
theorem comp_dearr_F (c : Codec) (hc : ∀ l, c.dec (c.enc l).1 (c.enc l).2 = l) :
    ∀ f : Forest, PlainF f → compF c (dearrF c f) = f
  | .nil, _ => rfl
  | .cons k t r, hp => by
    simp only [dearrF, compF]
    rw [comp_dearr_T c hc t hp.1, comp_dearr_F c hc r hp.2]
end

mutual
theorem serT_plain : ∀ t : Tree, PlainT (serT t)
  | .leaf l => by cases l <;> simp [serT, PlainT]
  | .node f => by simp only [serT, PlainT]; exact serF_plain f
  | .obj f => by simp only [serT, PlainT]; exact serF_plain f
theorem serF_plain : ∀ f : Forest, PlainF (serF f)
  | .nil => by simp [serF, PlainF]
  | .cons k t r => by simp only [serF, PlainF]; exact ⟨serT_plain t, serF_plain r⟩
end

/-- **JSON**: arrays to lists and back, complex to pairs and back, then as for HDF5 -/
theorem load_save_json (c : Codec) (hcod : ∀ l, c.dec (c.enc l).1 (c.enc l).2 = l)
    (known : String → Bool) (f : Forest) (hn : NoNT_F f) (hc : ClsF known f) :
    load c known (save c .json f) = f := by
  simp only [save, load]
  rw [comp_dearr_F c hcod _ (serF_plain f)]
  exact des_non_ser_F known f hn hc

/-! ## NumPy `.npz`: flatten / un-flatten -/

namespace Forest
theorem nil_append (g : Forest) : (Forest.nil ++ g : Forest) = g := rfl
theorem cons_append (k : Key) (t : Tree) (r g : Forest) :
    (Forest.cons k t r ++ g : Forest) = .cons k t (r ++ g) := rfl
theorem append_nil : ∀ f : Forest, (f ++ Forest.nil : Forest) = f
  | .nil => rfl
  | .cons k t r => by rw [cons_append, append_nil r]
theorem append_assoc : ∀ f g h : Forest, ((f ++ g) ++ h : Forest) = f ++ (g ++ h)
  | .nil, _, _ => rfl
  | .cons k t r, g, h => by rw [cons_append, cons_append, cons_append, append_assoc r g h]
theorem keys_append : ∀ f g : Forest, (f ++ g : Forest).keys = f.keys ++ g.keys
  | .nil, _ => rfl
  | .cons k t r, g => by rw [cons_append]; simp [keys, keys_append r g]
end Forest

mutual
/-- keys free of '>', unique per dictionary, no empty nested dictionary, no instance -/
def NpzT : Tree → Prop
  | .leaf _ => True
  | .node f => f ≠ .nil ∧ NpzF f
  | .obj _ => False
def NpzF : Forest → Prop
  | .nil => True
  | .cons k t r => sep ∉ k ∧ k ∉ r.keys ∧ NpzT t ∧ NpzF r
end

mutual
/-- flattened entries with their keys as paths -/
def pflatT : Tree → List (List Key × Leaf)
  | .leaf l => [([], l)]
  | .node f => pflatF f
  | .obj f => pflatF f
def pflatF : Forest → List (List Key × Leaf)
  | .nil => []
  | .cons k t r => (pflatT t).map (fun e => (k :: e.1, e.2)) ++ pflatF r
end

def joinP : List Key → Key
  | [] => []
  | [k] => k
  | k :: k2 :: p => k ++ sep :: joinP (k2 :: p)

def suffixP : List Key → Key
  | [] => []
  | k :: p => sep :: joinP (k :: p)

theorem joinP_cons (k : Key) (p : List Key) : joinP (k :: p) = k ++ suffixP p := by
  cases p with
  | nil => simp [joinP, suffixP]
  | cons k2 p => simp [joinP, suffixP]

theorem splitSep_nosep : ∀ k : Key, sep ∉ k → splitSep k = [k]
  | [], _ => rfl
  | c :: t, h => by
    have hc : c ≠ sep := fun e => h (by simp [e])
    have ht : sep ∉ t := fun e => h (by simp [e])
    simp [splitSep, hc, splitSep_nosep t ht]

theorem splitSep_append : ∀ (k rest : Key), sep ∉ k →
    splitSep (k ++ sep :: rest) = k :: splitSep rest
  | [], rest, _ => by simp [splitSep]
  | c :: t, rest, h => by
    have hc : c ≠ sep := fun e => h (by simp [e])
    have ht : sep ∉ t := fun e => h (by simp [e])
    simp [splitSep, hc, splitSep_append t rest ht]

/-- splitting a joined path gives the path back -/
theorem splitSep_joinP : ∀ p : List Key, p ≠ [] → (∀ k ∈ p, sep ∉ k) → splitSep (joinP p) = p
  | [], h, _ => absurd rfl h
  | [k], _, hk => by simpa [joinP] using splitSep_nosep k (hk k (by simp))
  | k :: k2 :: p, _, hk => by
    simp only [joinP]
    rw [splitSep_append k _ (hk k (by simp)),
      splitSep_joinP (k2 :: p) (by simp) (fun x hx => hk x (by simp [hx]))]

theorem pflatF_cons : ∀ (f : Forest) (e : List Key × Leaf), e ∈ pflatF f → ∃ k p, e.1 = k :: p
  | .nil, e, h => by simp [pflatF] at h
  | .cons k t r, e, h => by
    simp only [pflatF, List.mem_append, List.mem_map] at h
    rcases h with ⟨e', _, rfl⟩ | h
    · exact ⟨k, e'.1, rfl⟩
    · exact pflatF_cons r e h

theorem pflatF_ne (f : Forest) (e : List Key × Leaf) (he : e ∈ pflatF f) : e.1 ≠ [] := by
  obtain ⟨k, p, hp⟩ := pflatF_cons f e he
  rw [hp]; exact List.cons_ne_nil k p

/-- below a dictionary the prefix `pre ++ ">"` and the joined path make `pre` and the suffix -/
theorem map_join_suffix (pre : Key) (f : Forest) :
    (pflatF f).map (fun e => (pre ++ [sep] ++ joinP e.1, e.2)) =
      (pflatF f).map (fun e => (pre ++ suffixP e.1, e.2)) := by
  apply List.map_congr_left
  intro e he
  obtain ⟨k, p, hp⟩ := pflatF_cons f e he
  rw [hp]; simp [suffixP]

mutual
theorem flatT_eq (pre : Key) : ∀ t : Tree,
    flatT pre t = (pflatT t).map (fun e => (pre ++ suffixP e.1, e.2))
  | .leaf l => by simp [flatT, pflatT, suffixP]
  | .node f => by rw [flatT, pflatT, flatF_eq (pre ++ [sep]) f, map_join_suffix]
  | .obj f => by rw [flatT, pflatT, flatF_eq (pre ++ [sep]) f, map_join_suffix]
theorem flatF_eq (pre : Key) : ∀ f : Forest,
    flatF pre f = (pflatF f).map (fun e => (pre ++ joinP e.1, e.2))
  | .nil => rfl
  | .cons k t r => by
    simp only [flatF, pflatF, List.map_append, List.map_map]
    rw [flatT_eq (pre ++ k) t, flatF_eq pre r]
    congr 1
    apply List.map_congr_left
    intro e _
    simp [joinP_cons]
end

mutual
theorem pflatT_nosep : ∀ t : Tree, NpzT t → ∀ e ∈ pflatT t, ∀ k ∈ e.1, sep ∉ k
  | .leaf l, _, e, he, k, hk => by
    simp only [pflatT, List.mem_singleton] at he
    subst he; simp at hk
  | .node f, h, e, he, k, hk => pflatF_nosep f h.2 e he k hk
  | .obj _, h, _, _, _, _ => absurd h (by simp [NpzT])
theorem pflatF_nosep : ∀ f : Forest, NpzF f → ∀ e ∈ pflatF f, ∀ k ∈ e.1, sep ∉ k
  | .nil, _, e, he, _, _ => by simp [pflatF] at he
  | .cons k0 t r, h, e, he, k, hk => by
    simp only [pflatF, List.mem_append, List.mem_map] at he
    rcases he with ⟨e', he', rfl⟩ | he
    · simp only [List.mem_cons] at hk
      rcases hk with rfl | hk
      · exact h.1
      · exact pflatT_nosep t h.2.2.1 e' he' k hk
    · exact pflatF_nosep r h.2.2.2 e he k hk
end

/-- insertion of path entries, the loop of `_dict_unflatten` on split keys -/
def insAll (h : Forest) (es : List (List Key × Leaf)) : Forest :=
  es.foldl (fun acc e => insertPath e.1 e.2 acc) h

theorem insAll_append (h : Forest) (a b : List (List Key × Leaf)) :
    insAll h (a ++ b) = insAll (insAll h a) b := by simp [insAll, List.foldl_append]

theorem unflatten_eq (es : List (Key × Leaf)) :
    unflatten es = insAll .nil (es.map (fun e => (splitSep e.1, e.2))) := by
  simp only [unflatten, insAll, List.foldl_map]

theorem unflatten_flat (f : Forest) (hf : NpzF f) :
    unflatten (flatF [] f) = insAll .nil (pflatF f) := by
  rw [unflatten_eq, flatF_eq, List.map_map]
  congr 1
  conv => rhs; rw [← List.map_id (pflatF f)]
  apply List.map_congr_left
  intro e he
  simp only [Function.comp, List.nil_append, id]
  rw [splitSep_joinP e.1 (pflatF_ne f e he) (pflatF_nosep f hf e he)]

theorem upd_append (k : Key) (g : Option Tree → Tree) (rest : Forest) : ∀ acc : Forest,
    k ∉ acc.keys → upd k g (acc ++ rest) = acc ++ upd k g rest
  | .nil, _ => rfl
  | .cons k' t r, h => by
    have hk : k' ≠ k := fun e => h (by simp [Forest.keys, e])
    have hr : k ∉ r.keys := fun e => h (by simp [Forest.keys, e])
    simp only [Forest.cons_append, upd, hk, if_false]
    rw [upd_append k g rest r hr]

theorem upd_miss (k : Key) (g : Option Tree → Tree) (acc : Forest) (h : k ∉ acc.keys) :
    upd k g acc = acc ++ Forest.cons k (g none) .nil := by
  have := upd_append k g .nil acc h
  rwa [Forest.append_nil] at this

theorem upd_hit (k : Key) (g : Option Tree → Tree) (t : Tree) (rest acc : Forest)
    (h : k ∉ acc.keys) :
    upd k g (acc ++ Forest.cons k t rest) = acc ++ Forest.cons k (g (some t)) rest := by
  rw [upd_append k g _ acc h, upd, if_pos rfl]

/-- entries below an existing dictionary `k` are inserted inside it -/
theorem insAll_lift (k : Key) (acc : Forest) (hk : k ∉ acc.keys) :
    ∀ (es : List (List Key × Leaf)) (h : Forest), (∀ e ∈ es, e.1 ≠ []) →
    insAll (acc ++ Forest.cons k (.node h) .nil) (es.map (fun e => (k :: e.1, e.2))) =
      acc ++ Forest.cons k (.node (insAll h es)) .nil
  | [], h, _ => rfl
  | e :: es, h, hne => by
    simp only [List.map_cons, insAll, List.foldl_cons]
    obtain ⟨p1, p2⟩ := e
    cases p1 with
    | nil => exact absurd rfl (hne (([] : List Key), p2) (by simp))
    | cons k2 rest =>
      simp only [insertPath]
      rw [upd_hit k _ _ .nil acc hk]
      simp only [subForest]
      exact insAll_lift k acc hk es _ (fun e' he' => hne e' (by simp [he']))

mutual
theorem pflatF_ne_nil : ∀ g : Forest, g ≠ .nil → NpzF g → pflatF g ≠ []
  | .nil, h, _ => absurd rfl h
  | .cons k t r, _, hw => by
    simp only [pflatF]
    intro e
    have := List.append_eq_nil_iff.1 e
    have h1 := List.map_eq_nil_iff.1 this.1
    exact pflatT_ne_nil t hw.2.2.1 h1
theorem pflatT_ne_nil : ∀ t : Tree, NpzT t → pflatT t ≠ []
  | .leaf l, _ => by simp [pflatT]
  | .node g, hw => by simp only [pflatT]; exact pflatF_ne_nil g hw.1 hw.2
  | .obj _, hw => absurd hw (by simp [NpzT])
end

/-- entries below a new key `k`: the first one creates the dictionary, the others fill it -/
theorem insAll_new (k : Key) (acc : Forest) (hk : k ∉ acc.keys) :
    ∀ es : List (List Key × Leaf), es ≠ [] → (∀ e ∈ es, e.1 ≠ []) →
    insAll acc (es.map (fun e => (k :: e.1, e.2))) =
      acc ++ Forest.cons k (.node (insAll .nil es)) .nil
  | [], h, _ => absurd rfl h
  | ([], v) :: es, _, hne => absurd rfl (hne _ List.mem_cons_self)
  | (k2 :: rest, v) :: es, _, hne => by
    have hl := insAll_lift k acc hk es (insertPath (k2 :: rest) v .nil)
      (fun e he => hne e (List.mem_cons_of_mem _ he))
    simp only [List.map_cons, insAll, List.foldl_cons, insertPath] at hl ⊢
    rw [upd_miss k _ acc hk]
    exact hl

mutual
theorem insAll_tree (k : Key) : ∀ (t : Tree) (h : Forest), NpzT t → k ∉ h.keys →
    insAll h ((pflatT t).map (fun e => (k :: e.1, e.2))) = h ++ Forest.cons k t .nil
  | .leaf l, h, _, hk => upd_miss k _ h hk
  | .node g, h, hw, hk => by
    rw [pflatT, insAll_new k h hk _ (pflatF_ne_nil g hw.1 hw.2) (pflatF_ne g),
      insAll_forest g .nil hw.2 (fun _ _ => List.not_mem_nil), Forest.nil_append]
  | .obj _, _, hw, _ => absurd hw (by simp [NpzT])
theorem insAll_forest : ∀ (g h : Forest), NpzF g → (∀ x ∈ g.keys, x ∉ h.keys) →
    insAll h (pflatF g) = h ++ g
  | .nil, h, _, _ => (Forest.append_nil h).symm
  | .cons k t r, h, hw, hd => by
    simp only [pflatF]
    rw [insAll_append, insAll_tree k t h hw.2.2.1 (hd k (by simp [Forest.keys]))]
    rw [insAll_forest r (h ++ Forest.cons k t .nil) hw.2.2.2 ?_]
    · rw [Forest.append_assoc]; rfl
    · intro x hx
      rw [Forest.keys_append]
      simp only [Forest.keys, List.mem_append, List.mem_cons, List.not_mem_nil, or_false, not_or]
      refine ⟨hd x (by simp [Forest.keys, hx]), ?_⟩
      intro e; rw [e] at hx; exact hw.2.1 hx
end

/-- **un-flatten inverts flatten** (ordered, exact) for dictionaries whose keys are free of '>',
unique, and whose nested dictionaries are non-empty -/
theorem unflatten_flatten (f : Forest) (hf : NpzF f) : unflatten (flatF [] f) = f := by
  rw [unflatten_flat f hf, insAll_forest f .nil hf (by intro x _; simp [Forest.keys])]
  rfl

/-- **NumPy**: `load ∘ save` is the identity if additionally the serialised dictionary is
flattenable (`NpzF`) -/
theorem load_save_npz (c : Codec) (known : String → Bool) (f : Forest)
    (hn : NoNT_F f) (hc : ClsF known f) (hz : NpzF (serF f)) :
    load c known (save c .npz f) = f := by
  simp only [save, load]
  rw [unflatten_flatten _ hz]
  exact des_non_ser_F known f hn hc

/-- the `.npz` limitation: an empty nested dictionary disappears -/
theorem npz_empty_dict_lost :
    unflatten (flatF [] (Forest.cons "a".toList (.node .nil) .nil)) = .nil := by
  simp [flatF, flatT, unflatten]

theorem load_save (c : Codec) (hcod : ∀ l, c.dec (c.enc l).1 (c.enc l).2 = l)
    (known : String → Bool) (f : Forest) (hn : NoNT_F f) (hc : ClsF known f)
    (hz : NpzF (serF f)) (a : Fmt) : load c known (save c a f) = f := by
  cases a
  · exact load_save_h5 c known f hn hc
  · exact load_save_npz c known f hn hc hz
  · exact load_save_json c hcod known f hn hc

/-- **convert** between any two formats preserves the content -/
theorem convert_preserves (c : Codec) (hcod : ∀ l, c.dec (c.enc l).1 (c.enc l).2 = l)
    (known : String → Bool) (f : Forest) (hn : NoNT_F f) (hc : ClsF known f)
    (hz : NpzF (serF f)) (a b : Fmt) :
    load c known (convert c known (save c a f) b) = f := by
  unfold convert
  rw [load_save c hcod known f hn hc hz a, load_save c hcod known f hn hc hz b]

end IoT
