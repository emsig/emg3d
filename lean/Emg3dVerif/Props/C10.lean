import Emg3dVerif.Model.Source
import Emg3dVerif.Props.C15
import Emg3dVerif.Lemmas.Sbp
/-!
# C10 — sources inject exactly their nominal moment in their nominal direction

`Src.pointVector`, `Src.dipoleVector` model `fields._point_vector` / `_dipole_vector`
(T-float correspondence in `harness/c10.py`); rotations are algebraic identities in
`(cos, sin)` pairs with `c² + s² = 1`.

Proved here: point moment (all positions, incl. the extrapolating outer half cells and the last
interval), the partition-of-unity of the edge weights of a cell, the one-dimensional tiling
lemma (the clipped parametric lengths of the cells along a segment sum to one), all
conversion identities, and the three-dimensional tiling identity `tiling_3d` (the clipped
parametric lengths of all cells sum to one).  That the coded cell box and guard of
`_dipole_vector` select exactly the cells with a non-empty intersection, and with it the moment of
a finite dipole (`dipole_moment_stmt`), is proved in `Props/C10Dipole.lean` (`Src.dipole_moment`).
-/
open Finset

namespace Src

section sums
variable {K : Type} [CommRing K]

theorem sum_two (n a b : ℕ) (x y : K) (ha : a < n) (hb : b < n) (hab : a ≠ b) :
    ∑ i ∈ range n, (if i = a then x else if i = b then y else 0) = x + y := by
  have : ∀ i ∈ range n, (if i = a then x else if i = b then y else (0:K))
      = (if i = a then x else 0) + (if i = b then y else 0) := by
    intro i _
    split_ifs with h1 h2
    · exact absurd (h1.symm.trans h2) hab
    · exact (add_zero x).symm
    · exact (zero_add y).symm
    · exact (add_zero 0).symm
  rw [sum_congr rfl this, sum_add_distrib, sum_ite_eq', sum_ite_eq', if_pos (mem_range.2 ha),
    if_pos (mem_range.2 hb)]

theorem sum_two_mul (n a b : ℕ) (x y : K) (f : ℕ → K) (ha : a < n) (hb : b < n) (hab : a ≠ b) :
    ∑ i ∈ range n, (if i = a then x else if i = b then y else 0) * f i = x * f a + y * f b := by
  rw [← sum_two n a b (x * f a) (y * f b) ha hb hab]
  refine sum_congr rfl fun i _ => ?_
  split_ifs with h1 h2
  · rw [h1]
  · rw [h2]
  · exact zero_mul _

end sums

section order
variable {K : Type} [LinearOrder K]

/-- `np.where(p)[0][0]` over `range n`, or `n` if there is none: the first index at which `p`
holds (the interval rules of `whereIdx`, `ssIdx`, `cellIdx` all start from it) -/
theorem first_spec (p : ℕ → Bool) (n : ℕ) :
    ((List.range n).find? p).getD n ≤ n ∧
    (((List.range n).find? p).getD n < n → p (((List.range n).find? p).getD n) = true) ∧
    ∀ i < ((List.range n).find? p).getD n, p i = false := by
  cases hf : (List.range n).find? p with
  | none =>
    rw [List.find?_range_eq_none] at hf
    exact ⟨le_rfl, fun h => absurd h (lt_irrefl _), fun i hi => (Bool.not_eq_true' _).mp (hf i hi)⟩
  | some k =>
    rw [List.find?_range_eq_some] at hf
    exact ⟨(List.mem_range.1 hf.2.1).le, fun _ => hf.1,
      fun i hi => (Bool.not_eq_true' _).mp (hf.2.2 i hi)⟩

theorem whereIdx_lt (xx : ℕ → K) (n : ℕ) (c : K) (hn : 1 ≤ n) : whereIdx xx n c < n :=
  lt_of_le_of_lt (Nat.sub_le_sub_right (first_spec (fun i => decide (c < xx i)) n).1 1)
    (Nat.sub_lt hn Nat.one_pos)

end order

variable {K : Type} [Field K] [LinearOrder K] [IsStrictOrderedRing K]

omit [IsStrictOrderedRing K] in
/-- **the one-dimensional weights of a point source sum to one** — for every position: inside
an interval, before the first coordinate (extrapolation) and in the last interval -/
theorem w1_sum_one (xx : ℕ → K) (n : ℕ) (c : K) (hn : 1 ≤ n) :
    ∑ i ∈ range n, w1 xx n c i = 1 := by
  have hlt := whereIdx_lt xx n c hn
  unfold w1
  by_cases hlast : whereIdx xx n c + 1 = n
  · simp only [hlast, if_true]
    rw [sum_ite_eq' (range n) (whereIdx xx n c) (fun _ => (1:K)), if_pos (mem_range.2 hlt)]
  · simp only [hlast, if_false]
    rw [sum_two n (whereIdx xx n c + 1) (whereIdx xx n c) _ _ (by omega) hlt (by omega)]
    exact add_sub_cancel _ _

theorem coordsOf_pos (comp dir : ℕ) (g : Grid1 K) (hg : 1 ≤ g.n) : 1 ≤ (coordsOf comp dir g).2 := by
  unfold coordsOf
  split
  · exact hg
  · exact Nat.le_add_left 1 g.n

/-- **a point source sums, per Cartesian component, to its unit direction** -/
theorem point_moment (gx gy gz : Grid1 K) (hx : 1 ≤ gx.n) (hy : 1 ≤ gy.n) (hz : 1 ≤ gz.n)
    (p d : K × K × K) :
    Emg.S3 gx.n (gy.n+1) (gz.n+1) (pointVector gx gy gz p d).x = d.1 ∧
    Emg.S3 (gx.n+1) gy.n (gz.n+1) (pointVector gx gy gz p d).y = d.2.1 ∧
    Emg.S3 (gx.n+1) (gy.n+1) gz.n (pointVector gx gy gz p d).z = d.2.2 := by
  have hc := fun (g : Grid1 K) (hg : 1 ≤ g.n) (c : K) => w1_sum_one g.centers g.n c hg
  have hn := fun (g : Grid1 K) (c : K) => w1_sum_one g.nodes (g.n+1) c (Nat.le_add_left 1 g.n)
  refine ⟨?_, ?_, ?_⟩
  · exact (Emg.S3_tensor _ _ _ (w1 gx.centers gx.n p.1) (w1 gy.nodes (gy.n+1) p.2.1)
      (w1 gz.nodes (gz.n+1) p.2.2) d.1 _ (fun _ _ _ => rfl)).trans
      (by rw [hc gx hx, hn, hn, one_mul, one_mul, one_mul])
  · exact (Emg.S3_tensor _ _ _ (w1 gx.nodes (gx.n+1) p.1) (w1 gy.centers gy.n p.2.1)
      (w1 gz.nodes (gz.n+1) p.2.2) d.2.1 _ (fun _ _ _ => rfl)).trans
      (by rw [hn, hc gy hy, hn, one_mul, one_mul, one_mul])
  · exact (Emg.S3_tensor _ _ _ (w1 gx.nodes (gx.n+1) p.1) (w1 gy.nodes (gy.n+1) p.2.1)
      (w1 gz.centers gz.n p.2.2) d.2.2 _ (fun _ _ _ => rfl)).trans
      (by rw [hn, hn, hc gz hz, one_mul, one_mul, one_mul])

/-- partition of unity of the bilinear weights -/
theorem trilinear_partition (ry rz : K) :
    (1-ry)*(1-rz) + ry*(1-rz) + (1-ry)*rz + ry*rz = 1 := by ring

/-- the four x-edges of a contributing cell receive, together, exactly the clipped parametric
length of the segment in that cell -/
theorem cell_weights_sum_x (len rx ry rz : K) :
    (1-ry)*(1-rz)*len + ry*(1-rz)*len + (1-ry)*rz*len + ry*rz*len = len := by ring

/-- **the clipped parametric lengths of the cells along a segment sum to one** (one direction;
`a < b` start and end coordinate, nodes `x 0 ≤ … ≤ x n` containing the segment) -/
theorem segments_tile_1d (x : ℕ → K) (n : ℕ) (a b : K) (hab : a < b)
    (hmono : ∀ i < n, x i ≤ x (i+1)) (h0 : x 0 ≤ a) (hn : b ≤ x n) :
    ∑ k ∈ range n, max 0 (min ((x (k+1) - a)/(b - a)) 1 - max ((x k - a)/(b - a)) 0) = 1 := by
  have hd : 0 < b - a := sub_pos.2 hab
  rw [VolAvg.overlap_cover (fun k => (x k - a)/(b - a)) n 0 1
    (fun i hi => div_le_div_of_nonneg_right (sub_le_sub_right (hmono i hi) a) hd.le)
    (div_nonpos_of_nonpos_of_nonneg (sub_nonpos.2 h0) hd.le)
    ((one_le_div hd).2 (sub_le_sub_right hn a)), sub_zero, max_eq_right zero_le_one]

/-- **three-dimensional tiling**: if the parameter break points of the cells along a segment are
monotone in each direction and cover `[0, 1]`, the clipped parametric lengths
`|[0,1] ∩ [X_i, X_{i+1}] ∩ [Y_j, Y_{j+1}] ∩ [Z_k, Z_{k+1}]|` of all cells sum to one — every
point of the segment is in exactly one cell (up to end points) -/
theorem tiling_3d (X Y Z : ℕ → K) (nx ny nz : ℕ)
    (hX : ∀ i < nx, X i ≤ X (i+1)) (hY : ∀ i < ny, Y i ≤ Y (i+1)) (hZ : ∀ i < nz, Z i ≤ Z (i+1))
    (hX0 : X 0 ≤ 0) (hX1 : 1 ≤ X nx) (hY0 : Y 0 ≤ 0) (hY1 : 1 ≤ Y ny)
    (hZ0 : Z 0 ≤ 0) (hZ1 : 1 ≤ Z nz) :
    ∑ k ∈ range nz, ∑ j ∈ range ny, ∑ i ∈ range nx,
      max 0 (min (X (i+1)) (min (Y (j+1)) (min (Z (k+1)) 1)) -
             max (X i) (max (Y j) (max (Z k) 0))) = 1 := by
  -- sum out `x`, then `y`, then `z`: each time the remaining interval lies in `[0, 1]`, which the
  -- partition covers
  have hx : ∀ k j, ∑ i ∈ range nx,
      max 0 (min (X (i+1)) (min (Y (j+1)) (min (Z (k+1)) 1)) - max (X i) (max (Y j) (max (Z k) 0)))
      = max 0 (min (Y (j+1)) (min (Z (k+1)) 1) - max (Y j) (max (Z k) 0)) := fun k j =>
    VolAvg.overlap_cover X nx _ _ hX (hX0.trans (le_max_of_le_right (le_max_right _ _)))
      ((min_le_of_right_le (min_le_right _ _)).trans hX1)
  have hy : ∀ k, ∑ j ∈ range ny,
      max 0 (min (Y (j+1)) (min (Z (k+1)) 1) - max (Y j) (max (Z k) 0))
      = max 0 (min (Z (k+1)) 1 - max (Z k) 0) := fun k =>
    VolAvg.overlap_cover Y ny _ _ hY (hY0.trans (le_max_right _ _)) ((min_le_right _ _).trans hY1)
  simp only [hx, hy]
  rw [VolAvg.overlap_cover Z nz 0 1 hZ hZ0 hZ1, sub_zero, max_eq_right zero_le_one]

/-- the full statement for finite dipoles (proved in `Props/C10Dipole.lean`, `Src.dipole_moment`):
every Cartesian component of the dipole vector sums to `p1 − p0`. -/
def dipole_moment_stmt (gx gy gz : Grid1 K) (s : Seg K) : Prop :=
  Emg.S3 gx.n (gy.n+1) (gz.n+1) (dipoleVector gx gy gz s).x = s.p1.1 - s.p0.1 ∧
  Emg.S3 (gx.n+1) gy.n (gz.n+1) (dipoleVector gx gy gz s).y = s.p1.2.1 - s.p0.2.1 ∧
  Emg.S3 (gx.n+1) (gy.n+1) gz.n (dipoleVector gx gy gz s).z = s.p1.2.2 - s.p0.2.2

/-! ## rotations and conversions: identities in `(cos, sin)` pairs -/
section rot
variable {R : Type} [CommRing R]

/-- the rotation factors form a unit vector -/
theorem rotation_unit (ca sa ce se : R) (ha : ca^2 + sa^2 = 1) (he : ce^2 + se^2 = 1) :
    (ca*ce)^2 + (sa*ce)^2 + se^2 = 1 := by
  linear_combination ce^2 * ha + he

/-- centre ∓ half length × unit direction: the electrodes are `length` apart, along the
direction -/
theorem point_to_dipole_span (c d half : R) : (c + d*half) - (c - d*half) = d*(2*half) := by
  ring

/-- the square loop of a magnetic dipole `(az, el)`: both half diagonals are perpendicular to the
dipole direction and to each other, and have equal length — the loop is a closed planar
square whose plane is perpendicular to the dipole -/
theorem square_loop_closed_planar_perp (ca sa ce se h : R)
    (ha : ca^2 + sa^2 = 1) (he : ce^2 + se^2 = 1) :
    -- hor = (−sa, ca, 0)·h ; ver = (−ca·se, −sa·se, ce)·h ; d = (ca·ce, sa·ce, se)
    (-sa*h)*(ca*ce) + (ca*h)*(sa*ce) + 0*se = 0 ∧
    (-(ca*se)*h)*(ca*ce) + (-(sa*se)*h)*(sa*ce) + (ce*h)*se = 0 ∧
    (-sa*h)*(-(ca*se)*h) + (ca*h)*(-(sa*se)*h) + 0*(ce*h) = 0 ∧
    (-sa*h)^2 + (ca*h)^2 + 0^2 = h^2 ∧
    (-(ca*se)*h)^2 + (-(sa*se)*h)^2 + (ce*h)^2 = h^2 :=
    ⟨by ring, by linear_combination (-(se*ce*h)) * ha, by ring, by linear_combination h^2 * ha,
      by linear_combination (se^2*h^2) * ha + h^2 * he⟩

/-- side length² of the loop = 2·(half diagonal)² = area, when `h² = area/2` -/
theorem square_loop_area (hor1 hor2 hor3 ver1 ver2 ver3 h area : R)
    (hperp : hor1*ver1 + hor2*ver2 + hor3*ver3 = 0)
    (hh : hor1^2 + hor2^2 + hor3^2 = h^2) (hv : ver1^2 + ver2^2 + ver3^2 = h^2)
    (harea : 2*h^2 = area) :
    (ver1-hor1)^2 + (ver2-hor2)^2 + (ver3-hor3)^2 = area := by
  linear_combination hh + hv - 2 * hperp + harea

/-- consecutive sides `ver − hor`, `−hor − ver` have cross product `2h²·d = area·d`: the loop is
traversed right-handedly around the dipole direction -/
theorem square_loop_right_handed (ca sa ce se h : R) (ha : ca^2 + sa^2 = 1) :
    let hor := ((-sa)*h, ca*h, (0:R))
    let ver := (-(ca*se)*h, -(sa*se)*h, ce*h)
    let s1 := (ver.1 - hor.1, ver.2.1 - hor.2.1, ver.2.2 - hor.2.2)
    let s2 := (-hor.1 - ver.1, -hor.2.1 - ver.2.1, -hor.2.2 - ver.2.2)
    s1.2.1*s2.2.2 - s1.2.2*s2.2.1 = 2*h^2*(ca*ce) ∧
    s1.2.2*s2.1 - s1.1*s2.2.2 = 2*h^2*(sa*ce) ∧
    s1.1*s2.2.1 - s1.2.1*s2.1 = 2*h^2*se := by
  refine ⟨by ring, by ring, ?_⟩
  simp only
  linear_combination (2*h^2*se) * ha

/-- `get_source_field`: vector × strength × (−s μ₀), linear in the strength -/
theorem source_field_scaling (v st1 st2 smu0 : R) :
    v*(st1 + st2)*(-smu0) = v*st1*(-smu0) + v*st2*(-smu0) := by ring

end rot
end Src
