import Emg3dVerif.Props.C10
import Emg3dVerif.Props.C02
/-!
# C09 — receiver sampling and point sources are exact transposes; reciprocity

`Src.receiverLinear` models `fields.get_receiver(method='linear')` with SciPy's interval rule,
`Src.pointVector` models `fields._point_vector` with emg3d's own interval rule (tied to the code
in `harness/c09.py` / `c10.py`).  The two rules pick different intervals when the position
coincides with a coordinate; the theorems show that the linear functionals coincide anyway.
-/
open Finset
namespace Src
variable {K : Type} [Field K] [LinearOrder K] [IsStrictOrderedRing K]

def StrictMonoOn (xx : ℕ → K) (n : ℕ) : Prop := ∀ i j, i < j → j < n → xx i < xx j

/-- value of the linear interpolant of `f` on interval `i` at `c` -/
def lin (xx : ℕ → K) (f : ℕ → K) (i : ℕ) (c : K) : K :=
  (1 - (c - xx i)/(xx (i+1) - xx i)) * f i + (c - xx i)/(xx (i+1) - xx i) * f (i+1)

section
omit [LinearOrder K] [IsStrictOrderedRing K]

theorem lin_left (xx f : ℕ → K) (i : ℕ) : lin xx f i (xx i) = f i := by
  unfold lin
  rw [sub_self, zero_div, sub_zero, one_mul, zero_mul, add_zero]

theorem sum3_eq (n1 n2 n3 : ℕ) (f : ℕ → ℕ → ℕ → K) : sum3 n1 n2 n3 f = Emg.S3 n1 n2 n3 f := by
  unfold sum3
  simp only [Emg.foldl_add_eq_sum, zero_add]
  rfl

/-- replace the three weight functions by functionally equal ones -/
theorem tri_congr (n1 n2 n3 : ℕ) (a a' b b' c c' : ℕ → K) (f : ℕ → ℕ → ℕ → K)
    (ha : ∀ g : ℕ → K, ∑ i ∈ range n1, a i * g i = ∑ i ∈ range n1, a' i * g i)
    (hb : ∀ g : ℕ → K, ∑ j ∈ range n2, b j * g j = ∑ j ∈ range n2, b' j * g j)
    (hc : ∀ g : ℕ → K, ∑ k ∈ range n3, c k * g k = ∑ k ∈ range n3, c' k * g k) :
    Emg.S3 n1 n2 n3 (fun i j k => a i * b j * c k * f i j k)
      = Emg.S3 n1 n2 n3 (fun i j k => a' i * b' j * c' k * f i j k) := by
  rw [Emg.S3_nest, Emg.S3_nest]
  simp only [ha, hb, hc]

end

theorem lin_right (xx f : ℕ → K) (i : ℕ) (h : xx i < xx (i+1)) :
    lin xx f i (xx (i+1)) = f (i+1) := by
  unfold lin
  rw [div_self (sub_pos.2 h).ne', sub_self, zero_mul, one_mul, zero_add]

theorem lin_adjacent (xx f : ℕ → K) (n i i' : ℕ) (c : K) (hs : StrictMonoOn xx n)
    (hi' : i' + 1 < n) (h : i < i') (hb : c ≤ xx (i+1)) (hb' : xx i' ≤ c) :
    lin xx f i c = lin xx f i' c := by
  -- `c ≤ xx (i+1) ≤ xx i' ≤ c`, and `i+1 < i'` would make the middle inequality strict
  obtain rfl : i + 1 = i' := by
    by_contra hne
    exact absurd (hb'.trans hb) (not_le.2 (hs _ _ (by omega) (by omega)))
  obtain rfl : c = xx (i+1) := le_antisymm hb hb'
  rw [lin_right xx f i (hs _ _ (Nat.lt_succ_self i) (by omega)), lin_left]

/-- **the interval chosen at a coordinate does not matter**: two bracketing intervals give the
same interpolated value (linear interpolation is continuous) -/
theorem interp_interval_irrelevant (xx f : ℕ → K) (n i i' : ℕ) (c : K) (hs : StrictMonoOn xx n)
    (hi : i + 1 < n) (hi' : i' + 1 < n)
    (hb : xx i ≤ c ∧ c ≤ xx (i+1)) (hb' : xx i' ≤ c ∧ c ≤ xx (i'+1)) :
    lin xx f i c = lin xx f i' c := by
  rcases Nat.lt_trichotomy i i' with h | rfl | h
  · exact lin_adjacent xx f n i i' c hs hi' h hb.2 hb'.1
  · rfl
  · exact (lin_adjacent xx f n i' i c hs hi h hb'.2 hb.1).symm

section
omit [Field K] [IsStrictOrderedRing K]

/-- emg3d's interval rule brackets the coordinate -/
theorem whereIdx_bracket (xx : ℕ → K) (n : ℕ) (c : K) (hn : 2 ≤ n)
    (h0 : xx 0 ≤ c) (h1 : c < xx (n-1)) :
    whereIdx xx n c + 1 < n ∧ xx (whereIdx xx n c) ≤ c ∧ c < xx (whereIdx xx n c + 1) := by
  obtain ⟨_, hk, hlt⟩ := first_spec (fun i => decide (c < xx i)) n
  unfold whereIdx
  generalize ((List.range n).find? fun i => decide (c < xx i)).getD n = k at *
  have hkn : k ≤ n - 1 := by
    by_contra h
    exact absurd h1 (of_decide_eq_false (hlt (n-1) (by omega)))
  have hk0 : k ≠ 0 := by
    rintro rfl
    exact absurd (of_decide_eq_true (hk (by omega))) (not_lt.2 h0)
  rw [show k - 1 + 1 = k by omega]
  exact ⟨by omega, not_lt.1 (of_decide_eq_false (hlt (k-1) (by omega))),
    of_decide_eq_true (hk (by omega))⟩

/-- SciPy's interval rule brackets the coordinate, too -/
theorem ssIdx_bracket (xx : ℕ → K) (n : ℕ) (c : K) (hs : StrictMonoOn xx n) (hn : 2 ≤ n)
    (h0 : xx 0 ≤ c) (h1 : c < xx (n-1)) :
    ssIdx xx n c + 1 < n ∧ xx (ssIdx xx n c) ≤ c ∧ c ≤ xx (ssIdx xx n c + 1) := by
  obtain ⟨_, hk, hlt⟩ := first_spec (fun i => decide (c ≤ xx i)) n
  unfold ssIdx
  generalize ((List.range n).find? fun i => decide (c ≤ xx i)).getD n = k at *
  have hkn : k ≤ n - 1 := by
    by_contra h
    exact absurd h1.le (of_decide_eq_false (hlt (n-1) (by omega)))
  have hck : c ≤ xx k := of_decide_eq_true (hk (by omega))
  rcases Nat.eq_zero_or_pos k with rfl | hk0
  · -- `c = xx 0`: SciPy takes the first interval
    obtain rfl : c = xx 0 := le_antisymm hck h0
    rw [show min (0 - 1) (n - 2) = 0 from Nat.zero_min _]
    exact ⟨by omega, le_rfl, (hs 0 1 Nat.one_pos (by omega)).le⟩
  · rw [show min (k - 1) (n - 2) = k - 1 by omega, show k - 1 + 1 = k by omega]
    exact ⟨by omega, (not_le.1 (of_decide_eq_false (hlt (k-1) (by omega)))).le, hck⟩

end

section
omit [IsStrictOrderedRing K]

theorem w1_functional (xx f : ℕ → K) (n : ℕ) (c : K) (hlt : whereIdx xx n c + 1 < n) :
    ∑ i ∈ range n, w1 xx n c i * f i = lin xx f (whereIdx xx n c) c := by
  unfold w1 lin
  rw [if_neg hlt.ne, sum_two_mul n _ _ _ _ f hlt (by omega) (by omega), add_comm]

theorem w1s_functional (xx f : ℕ → K) (n : ℕ) (c : K) (hlt : ssIdx xx n c + 1 < n) :
    ∑ i ∈ range n, w1s xx n c i * f i = lin xx f (ssIdx xx n c) c := by
  unfold w1s lin
  rw [sum_two_mul n _ _ _ _ f hlt (by omega) (by omega), add_comm]

end

/-- **one direction: SciPy's interpolation weights and emg3d's point-source weights define the
same linear functional**, for every coordinate `xx 0 ≤ c < xx (n−1)` (also on the nodes) -/
theorem w1s_eq_w1_functional (xx f : ℕ → K) (n : ℕ) (c : K) (hs : StrictMonoOn xx n) (hn : 2 ≤ n)
    (h0 : xx 0 ≤ c) (h1 : c < xx (n-1)) :
    ∑ i ∈ range n, w1s xx n c i * f i = ∑ i ∈ range n, w1 xx n c i * f i := by
  obtain ⟨a1, a2, a3⟩ := whereIdx_bracket xx n c hn h0 h1
  obtain ⟨b1, b2, b3⟩ := ssIdx_bracket xx n c hs hn h0 h1
  rw [w1_functional xx f n c a1, w1s_functional xx f n c b1]
  exact interp_interval_irrelevant xx f n _ _ c hs b1 a1 ⟨b2, b3⟩ ⟨a2, le_of_lt a3⟩


/-! ## three dimensions -/

/-- grid direction with strictly increasing nodes -/
def GridOk (g : Grid1 K) : Prop := 2 ≤ g.n ∧ StrictMonoOn g.nodes (g.n + 1)

theorem centers_strict (g : Grid1 K) (h : GridOk g) : StrictMonoOn g.centers g.n := fun i j hij hj =>
  div_lt_div_of_pos_right (add_lt_add (h.2 i j hij (Nat.lt_succ_of_lt hj))
    (h.2 (i+1) (j+1) (Nat.succ_lt_succ hij) (Nat.succ_lt_succ hj))) two_pos

/-- position inside the second to second-last cell of this direction -/
def InSecond (g : Grid1 K) (c : K) : Prop := g.nodes 1 ≤ c ∧ c ≤ g.nodes (g.n - 1)

theorem dir_functional (comp dir : ℕ) (g : Grid1 K) (h : GridOk g) (c : K) (hc : InSecond g c)
    (f : ℕ → K) :
    ∑ i ∈ range (coordsOf comp dir g).2, w1s (coordsOf comp dir g).1 (coordsOf comp dir g).2 c i * f i
      = ∑ i ∈ range (coordsOf comp dir g).2, w1 (coordsOf comp dir g).1 (coordsOf comp dir g).2 c i * f i := by
  unfold coordsOf
  have hn := h.1
  split_ifs with hcd
  · -- centres: `centers 0 < nodes 1 ≤ c ≤ nodes (n-1) < centers (n-1)`
    exact w1s_eq_w1_functional g.centers f g.n c (centers_strict g h) hn
      ((add_div_two_lt_right.2 (h.2 0 1 Nat.one_pos (by omega))).le.trans hc.1)
      (hc.2.trans_lt (left_lt_add_div_two.2
        (h.2 (g.n-1) (g.n-1+1) (Nat.lt_succ_self _) (by omega))))
  · exact w1s_eq_w1_functional g.nodes f (g.n+1) c h.2 (by omega)
      ((h.2 0 1 Nat.one_pos (by omega)).le.trans hc.1)
      (hc.2.trans_lt (h.2 (g.n-1) g.n (by omega) (Nat.lt_succ_self _)))

/-- **Sampling a field with linear interpolation is the inner product of the field with the unit
point-source vector of the same position and orientation** — for every position inside the
second to second-last cell (also on nodes, edges, faces), every orientation and every field. -/
theorem receiver_eq_pointvector (gx gy gz : Grid1 K) (hx : GridOk gx) (hy : GridOk gy)
    (hz : GridOk gz) (e : Emg.EF K) (p d : K × K × K)
    (hpx : InSecond gx p.1) (hpy : InSecond gy p.2.1) (hpz : InSecond gz p.2.2) :
    receiverLinear gx gy gz e p d
      = Emg.S3 gx.n (gy.n+1) (gz.n+1) (fun i j k => (pointVector gx gy gz p d).x i j k * e.x i j k)
      + Emg.S3 (gx.n+1) gy.n (gz.n+1) (fun i j k => (pointVector gx gy gz p d).y i j k * e.y i j k)
      + Emg.S3 (gx.n+1) (gy.n+1) gz.n (fun i j k => (pointVector gx gy gz p d).z i j k * e.z i j k) := by
  unfold receiverLinear pointVector
  simp only [sum3_eq]
  have key : ∀ (c : ℕ) (f : Emg.F3 K) (dd : K),
      dd * Emg.S3 (coordsOf c 0 gx).2 (coordsOf c 1 gy).2 (coordsOf c 2 gz).2 (fun i j k =>
        w1s (coordsOf c 0 gx).1 (coordsOf c 0 gx).2 p.1 i * w1s (coordsOf c 1 gy).1 (coordsOf c 1 gy).2 p.2.1 j
          * w1s (coordsOf c 2 gz).1 (coordsOf c 2 gz).2 p.2.2 k * f i j k)
      = Emg.S3 (coordsOf c 0 gx).2 (coordsOf c 1 gy).2 (coordsOf c 2 gz).2 (fun i j k =>
        w1 (coordsOf c 0 gx).1 (coordsOf c 0 gx).2 p.1 i * w1 (coordsOf c 1 gy).1 (coordsOf c 1 gy).2 p.2.1 j
          * w1 (coordsOf c 2 gz).1 (coordsOf c 2 gz).2 p.2.2 k * dd * f i j k) := by
    intro c f dd
    rw [tri_congr _ _ _ _ _ _ _ _ _ f (dir_functional c 0 gx hx p.1 hpx)
      (dir_functional c 1 gy hy p.2.1 hpy) (dir_functional c 2 gz hz p.2.2 hpz), mul_comm,
      ← Emg.S3_mul_const]
    exact Emg.S3_congr _ _ _ _ _ fun i j k => by ring
  rw [key 0 e.x d.1, key 1 e.y d.2.1, key 2 e.z d.2.2]
  simp [coordsOf]

/-- the receiver is a linear functional of the field -/
theorem receiver_linear (gx gy gz : Grid1 K) (e1 e2 : Emg.EF K) (a b : K) (p d : K × K × K) :
    receiverLinear gx gy gz
        ⟨fun i j k => a * e1.x i j k + b * e2.x i j k, fun i j k => a * e1.y i j k + b * e2.y i j k,
         fun i j k => a * e1.z i j k + b * e2.z i j k⟩ p d
      = a * receiverLinear gx gy gz e1 p d + b * receiverLinear gx gy gz e2 p d := by
  unfold receiverLinear
  simp only [sum3_eq, Emg.S3_lin]
  ring

/-- NaN policy: a receiver gets a number exactly when it lies in the second to second-last cell
in every direction -/
theorem nan_policy_second_cell (gx gy gz : Grid1 K) (p : K × K × K) :
    receiverIsNaN gx gy gz p = false ↔
      (InSecond gx p.1 ∧ InSecond gy p.2.1 ∧ InSecond gz p.2.2) := by
  unfold receiverIsNaN InSecond
  simp only [Bool.or_eq_false_iff, decide_eq_false_iff_not, not_lt]
  tauto


/-! ## magnetic receivers and reciprocity -/

/-- **discrete Faraday law**: with `ζ = V/(s μ₀)` (μ_r = 1) the edge-curl factor is
`(∇×E)/(s μ₀)` on every interior face -/
theorem edgeCurlFactor_is_faraday (g : Emg.Grid K) (smu : K) (e : Emg.EF K) (i j k : ℕ)
    (hi : i < g.nx) (hj : j < g.ny) (hk : k < g.nz) (hi0 : i ≠ 0) (hsmu : smu ≠ 0)
    (hx : g.hx (i-1) + g.hx i ≠ 0) (hy : g.hy j ≠ 0) (hz : g.hz k ≠ 0) :
    (edgeCurlFactor g (fun a b c => g.hx a * g.hy b * g.hz c / smu) e).x i j k
      = Emg.curlX g e i j k / smu := by
  simp only [edgeCurlFactor, hi, hj, hk, hi0, ne_eq, not_false_eq_true, and_self, if_true]
  field_simp

/-- **magnetic receiver = inner product with the magnetic point vector**: for any face weights
`w` (the interpolation weights of the receiver) and any PEC field,
`Σ_faces w·(∇×e) = Σ_edges (∇×ᵀ w)·e`; dividing by `s μ₀` gives the statement for `H`. -/
theorem magnetic_receiver_adjoint (g : Emg.Grid K) (wx wy wz : Emg.F3 K) (e : Emg.EF K)
    (he : Emg.PEC g e) :
    Emg.faceDot g wx wy wz (Emg.curlX g e) (Emg.curlY g e) (Emg.curlZ g e)
      = Emg.edgeDot g (Emg.curlT g wx wy wz) e :=
  (Emg.curlT_adjoint g wx wy wz e he).symm

/-- **reciprocity**: if `u` solves the system for source `ps` and `v` for source `pr` (both with
vanishing tangential boundary values), then `⟨pr, u⟩ = ⟨ps, v⟩` — exchanging a point source and
a point receiver of the same kind leaves the response unchanged. -/
theorem reciprocity (g : Emg.Grid K) (m : Emg.VM K) (u v ps pr : Emg.EF K)
    (hu : Emg.PEC g u) (hv : Emg.PEC g v)
    (hsu : Emg.amat g m u = ps) (hsv : Emg.amat g m v = pr) :
    Emg.edgeDot g pr u = Emg.edgeDot g ps v := by
  rw [← hsu, ← hsv, Emg.amat_symmetric g m v u hv hu, Emg.edgeDot_comm]

end Src
