import Emg3dVerif.Model.Restrict
import Emg3dVerif.Model.Smooth
import Emg3dVerif.Lemmas.Sbp
import Emg3dVerif.Props.C02
import Mathlib.Algebra.Order.Field.Basic
import Mathlib.Tactic.Positivity
import Mathlib.Tactic.FieldSimp
/-!
# C04 — restriction is the transpose of prolongation; the coarse model conserves volumes

`Emg.restrict`, `Emg.prolong`, `Emg.restrictParam`, `Emg.coarseGrid` model the grid transfer
of `emg3d` (tied to the code by `harness/c04.py`).  All theorems hold for arbitrary grid sizes
(even in the coarsened directions), arbitrary widths and fields, all seven patterns.
-/
open Finset
namespace Emg
variable {K : Type} [Field K]

/-! ## one dimension -/

/-- interior restriction weights are the linear-interpolation weights of the odd fine nodes -/
theorem wl_interior_eq_prolong_weight (h : ℕ → K) (I : ℕ) (hI : 1 ≤ I) :
    wl h I = h (2*I-1-1) / (h (2*I-1-1) + h (2*I-1)) := by
  have : I ≠ 0 := by omega
  simp only [wl, this, if_false]
  have e : 2*I-1-1 = 2*I-2 := by omega
  rw [e]

theorem wr_interior_eq_prolong_weight (h : ℕ → K) (n I : ℕ) (hI : 2*I ≠ n) :
    wr h n I = h (2*I+1) / (h (2*I+1-1) + h (2*I+1)) := by
  simp only [wr, hI, if_false, Nat.add_sub_cancel]

/-- pairing fine cells `2I, 2I+1` into coarse cell `I` -/
theorem sum_range_two_mul (f : ℕ → K) (N : ℕ) :
    ∑ i ∈ range (2*N), f i = ∑ I ∈ range N, (f (2*I) + f (2*I+1)) := by
  induction N with
  | zero => rfl
  | succ N ih => rw [Nat.mul_succ, sum_range_succ, sum_range_succ, ih, sum_range_succ, add_assoc]

/-- `R1 m h n` (coarse range `A`) and `P1 m h` (fine range `B`) are transposes of each other on
coarse vectors that vanish on `S` -/
def Adj1 (m : Mode) (h : ℕ → K) (n A B : ℕ) (S : ℕ → Prop) : Prop :=
  ∀ r c : ℕ → K, (∀ I, S I → c I = 0) →
    ∑ I ∈ range A, R1 m h n r I * c I = ∑ i ∈ range B, r i * P1 m h c i

/-- piecewise-constant prolongation is the transpose of "sum of the two children" -/
theorem adj1_cell (h : ℕ → K) (n N : ℕ) (r c : ℕ → K) :
    ∑ I ∈ range N, R1 .cell h n r I * c I = ∑ i ∈ range (2*N), r i * P1 .cell h c i := by
  rw [sum_range_two_mul]
  refine sum_congr rfl fun I _ => ?_
  simp only [R1, P1]
  rw [Nat.mul_div_cancel_left I Nat.two_pos, show (2*I+1)/2 = I by omega, add_mul]

theorem P1_node_even (h c : ℕ → K) (I : ℕ) : P1 .node h c (2*I) = c I := by
  simp only [P1, Nat.mul_mod_right, if_true, Nat.mul_div_cancel_left I Nat.two_pos]

theorem P1_node_odd (h c : ℕ → K) (I : ℕ) : P1 .node h c (2*I+1)
    = h (2*I+1) / (h (2*I) + h (2*I+1)) * c I + h (2*I) / (h (2*I) + h (2*I+1)) * c (I+1) := by
  have e : (2*I+1) % 2 ≠ 0 := by omega
  simp only [P1, e, if_false, Nat.add_sub_cancel, show (2*I+1)/2 = I by omega]

/-- **linear interpolation is the transpose of the three-point restriction stencil**
(coarse values vanishing at the two boundary nodes) -/
theorem adj1_node (h : ℕ → K) (N : ℕ) (r c : ℕ → K) (h0 : c 0 = 0) (hN : c N = 0) :
    ∑ I ∈ range (N+1), R1 .node h (2*N) r I * c I
      = ∑ j ∈ range (2*N+1), r j * P1 .node h c j := by
  -- the weight of fine node `2I-1` in coarse node `I` is its interpolation weight from `I`;
  -- shifting that sum by one (`G`) turns the restriction stencil into the interpolation stencil
  let G : ℕ → K := fun I => wl h I * r (2*I-1) * c I
  have shift : ∑ I ∈ range N, G (I+1) = ∑ I ∈ range N, G I := by
    have := (sum_range_succ' G N).symm.trans (sum_range_succ G N)
    simp only [G, h0, hN, mul_zero, add_zero] at this
    exact this
  rw [sum_range_succ, sum_range_succ, sum_range_two_mul, hN, P1_node_even, hN, mul_zero, mul_zero,
    add_zero, add_zero]
  have : ∀ I ∈ range N, R1 .node h (2*N) r I * c I
      = r (2*I) * P1 .node h c (2*I) + r (2*I+1) * P1 .node h c (2*I+1) + (G I - G (I+1)) := by
    intro I hI
    have hI' : I < N := mem_range.1 hI
    have h2 : 2*I ≠ 2*N := by omega
    have h3 : min (2*N) (2*I+1) = 2*I+1 := by omega
    simp only [P1_node_even, P1_node_odd, R1, wr, wl, G, h2, h3, if_false, Nat.succ_ne_zero,
      show 2*(I+1)-2 = 2*I by omega, show 2*(I+1)-1 = 2*I+1 by omega]
    ring
  rw [sum_congr rfl this, sum_add_distrib, sum_sub_distrib, shift, sub_self, add_zero]

theorem P1_zero (m : Mode) (h : ℕ → K) (i : ℕ) : P1 m h (fun _ => (0:K)) i = 0 := by
  cases m <;> simp [P1]

/-- one-dimensional adjointness for every pattern flag `c`, along the edge (cells) and across it
(nodes, coarse values vanishing at the first and last node) -/
theorem adj1 (c : Bool) (h : ℕ → K) (n : ℕ) (hn : c = true → n % 2 = 0) :
    Adj1 (along c) h n (cN c n) n (fun _ => False) ∧
    Adj1 (across c) h n (cN c n + 1) (n + 1) fun I => I = 0 ∨ I = cN c n := by
  cases c
  · exact ⟨fun _ _ _ => rfl, fun _ _ _ => rfl⟩
  · obtain ⟨N, rfl⟩ : ∃ N, n = 2*N := ⟨n/2, by have := hn rfl; omega⟩
    rw [show cN true (2*N) = N from Nat.mul_div_cancel_left N Nat.two_pos]
    exact ⟨fun r cc _ => adj1_cell h _ N r cc,
      fun r cc hc => adj1_node h N r cc (hc 0 (Or.inl rfl)) (hc N (Or.inr rfl))⟩

/-! ## three dimensions -/

/-- a tensor product of one-dimensional transposed pairs is a transposed pair -/
theorem adj3 {mx my mz : Mode} {g : Grid K} {a1 a2 a3 b1 b2 b3 : ℕ} {Sx Sy Sz : ℕ → Prop}
    (hx : Adj1 mx g.hx g.nx a1 b1 Sx) (hy : Adj1 my g.hy g.ny a2 b2 Sy)
    (hz : Adj1 mz g.hz g.nz a3 b3 Sz) (r c : F3 K)
    (hcx : ∀ I J L, Sx I → c I J L = 0) (hcy : ∀ I J L, Sy J → c I J L = 0)
    (hcz : ∀ I J L, Sz L → c I J L = 0) :
    S3 a1 a2 a3 (fun I J L => R3 mx my mz g r I J L * c I J L)
      = S3 b1 b2 b3 (fun i j k => r i j k * P3 mx my mz g c i j k) := by
  have zero : ∀ (m : Mode) (h : ℕ → K) (f : ℕ → K) (i : ℕ), (∀ I, f I = 0) → P1 m h f i = 0 :=
    fun m h f i hf => by rw [funext hf]; exact P1_zero m h i
  unfold S3 R3 P3
  -- x: bring the x-sum inside, transpose there, bring it out again
  calc _ = ∑ J ∈ range a2, ∑ L ∈ range a3, ∑ I ∈ range a1,
              R1 mx g.hx g.nx (fun i => R1 my g.hy g.ny (fun j => R1 mz g.hz g.nz (fun k => r i j k) L) J) I
                * c I J L := by rw [sum_comm]; exact sum_congr rfl fun J _ => sum_comm
    _ = ∑ J ∈ range a2, ∑ L ∈ range a3, ∑ i ∈ range b1,
              R1 my g.hy g.ny (fun j => R1 mz g.hz g.nz (fun k => r i j k) L) J
                * P1 mx g.hx (fun I => c I J L) i :=
        sum_congr rfl fun J _ => sum_congr rfl fun L _ => hx _ _ fun I hI => hcx I J L hI
    _ = ∑ i ∈ range b1, ∑ J ∈ range a2, ∑ L ∈ range a3,
              R1 my g.hy g.ny (fun j => R1 mz g.hz g.nz (fun k => r i j k) L) J
                * P1 mx g.hx (fun I => c I J L) i :=
        (sum_congr rfl fun J _ => sum_comm).trans sum_comm
    _ = _ := sum_congr rfl fun i _ => ?_
  -- y, then z
  calc _ = ∑ L ∈ range a3, ∑ j ∈ range b2, R1 mz g.hz g.nz (fun k => r i j k) L
              * P1 my g.hy (fun J => P1 mx g.hx (fun I => c I J L) i) j :=
        sum_comm.trans <| sum_congr rfl fun L _ =>
          hy _ _ fun J hJ => zero _ _ _ _ fun I => hcy I J L hJ
    _ = _ := sum_comm.trans <| sum_congr rfl fun j _ => hz _ _ fun L hL =>
          zero _ _ _ _ fun J => zero _ _ _ _ fun I => hcz I J L hL

/-- the grid can be coarsened with pattern `sc` -/
def Coarsenable (sc : ℕ) (g : Grid K) : Prop :=
  (coarsX sc = true → g.nx % 2 = 0) ∧ (coarsY sc = true → g.ny % 2 = 0) ∧
  (coarsZ sc = true → g.nz % 2 = 0)

/-- **Restriction = prolongationᵀ, x-edges**: for every fine residual `r` and every coarse
field `c` with vanishing tangential boundary values, `⟨restrict r, c⟩_coarse = ⟨r, P c⟩_fine`
(all seven patterns). -/
theorem restrict_transpose_prolong_x (sc : ℕ) (g : Grid K) (hg : Coarsenable sc g) (r c : EF K)
    (hc : PEC (coarseGrid sc g) c) :
    S3 (coarseGrid sc g).nx ((coarseGrid sc g).ny+1) ((coarseGrid sc g).nz+1)
        (fun I J L => (restrict sc g r).x I J L * c.x I J L)
      = S3 g.nx (g.ny+1) (g.nz+1)
        (fun i j k => r.x i j k *
          P3 (along (coarsX sc)) (across (coarsY sc)) (across (coarsZ sc)) g c.x i j k) := by
  rw [← adj3 (adj1 _ _ _ hg.1).1 (adj1 _ _ _ hg.2.1).2 (adj1 _ _ _ hg.2.2).2 r.x c.x
    (fun _ _ _ h => h.elim) (fun I J L h => h.elim (· ▸ hc.x_j0 I L) (· ▸ hc.x_jn I L))
    (fun I J L h => h.elim (· ▸ hc.x_k0 I J) (· ▸ hc.x_kn I J))]
  refine S3_congr_mem _ _ _ _ _ fun I J L hI hJ hL => ?_
  exact congrArg (· * c.x I J L) (if_pos ⟨hI, Nat.lt_succ_iff.1 hJ, Nat.lt_succ_iff.1 hL⟩)

/-- **Restriction = prolongationᵀ, y-edges.** -/
theorem restrict_transpose_prolong_y (sc : ℕ) (g : Grid K) (hg : Coarsenable sc g) (r c : EF K)
    (hc : PEC (coarseGrid sc g) c) :
    S3 ((coarseGrid sc g).nx+1) (coarseGrid sc g).ny ((coarseGrid sc g).nz+1)
        (fun I J L => (restrict sc g r).y I J L * c.y I J L)
      = S3 (g.nx+1) g.ny (g.nz+1)
        (fun i j k => r.y i j k *
          P3 (across (coarsX sc)) (along (coarsY sc)) (across (coarsZ sc)) g c.y i j k) := by
  rw [← adj3 (adj1 _ _ _ hg.1).2 (adj1 _ _ _ hg.2.1).1 (adj1 _ _ _ hg.2.2).2 r.y c.y
    (fun I J L h => h.elim (· ▸ hc.y_i0 J L) (· ▸ hc.y_in J L)) (fun _ _ _ h => h.elim)
    (fun I J L h => h.elim (· ▸ hc.y_k0 I J) (· ▸ hc.y_kn I J))]
  refine S3_congr_mem _ _ _ _ _ fun I J L hI hJ hL => ?_
  exact congrArg (· * c.y I J L) (if_pos ⟨Nat.lt_succ_iff.1 hI, hJ, Nat.lt_succ_iff.1 hL⟩)


/-- **Restriction = prolongationᵀ, z-edges.** -/
theorem restrict_transpose_prolong_z (sc : ℕ) (g : Grid K) (hg : Coarsenable sc g) (r c : EF K)
    (hc : PEC (coarseGrid sc g) c) :
    S3 ((coarseGrid sc g).nx+1) ((coarseGrid sc g).ny+1) (coarseGrid sc g).nz
        (fun I J L => (restrict sc g r).z I J L * c.z I J L)
      = S3 (g.nx+1) (g.ny+1) g.nz
        (fun i j k => r.z i j k *
          P3 (across (coarsX sc)) (across (coarsY sc)) (along (coarsZ sc)) g c.z i j k) := by
  rw [← adj3 (adj1 _ _ _ hg.1).2 (adj1 _ _ _ hg.2.1).2 (adj1 _ _ _ hg.2.2).1 r.z c.z
    (fun I J L h => h.elim (· ▸ hc.z_i0 J L) (· ▸ hc.z_in J L))
    (fun I J L h => h.elim (· ▸ hc.z_j0 I L) (· ▸ hc.z_jn I L)) (fun _ _ _ h => h.elim)]
  refine S3_congr_mem _ _ _ _ _ fun I J L hI hJ hL => ?_
  exact congrArg (· * c.z I J L) (if_pos ⟨Nat.lt_succ_iff.1 hI, Nat.lt_succ_iff.1 hJ, hL⟩)

/-- coarse edge field with vanishing tangential components on the coarse boundary -/
def CPEC (cg : Grid K) (c : EF K) : Prop := PEC cg c

/-! ## prolongation: adds, keeps the boundary, convex weights -/

/-- prolongation *adds* the interpolated correction to the fine field -/
theorem prolong_adds (sc : ℕ) (g : Grid K) (e ce : EF K) (i j k : ℕ) :
    (prolong sc g e ce).x i j k = e.x i j k + (prolong sc g zeroEF ce).x i j k ∧
    (prolong sc g e ce).y i j k = e.y i j k + (prolong sc g zeroEF ce).y i j k ∧
    (prolong sc g e ce).z i j k = e.z i j k + (prolong sc g zeroEF ce).z i j k := by
  refine ⟨?_, ?_, ?_⟩ <;> simp only [prolong, zeroEF] <;> split <;> simp

/-- tangential boundary edges of the fine field are never touched by the prolongation -/
theorem prolong_keeps_boundary (sc : ℕ) (g : Grid K) (e ce : EF K) (i j k : ℕ) :
    ((j = 0 ∨ g.ny ≤ j ∨ k = 0 ∨ g.nz ≤ k) → (prolong sc g e ce).x i j k = e.x i j k) ∧
    ((i = 0 ∨ g.nx ≤ i ∨ k = 0 ∨ g.nz ≤ k) → (prolong sc g e ce).y i j k = e.y i j k) ∧
    ((i = 0 ∨ g.nx ≤ i ∨ j = 0 ∨ g.ny ≤ j) → (prolong sc g e ce).z i j k = e.z i j k) := by
  refine ⟨fun h => ?_, fun h => ?_, fun h => ?_⟩ <;> simp only [prolong] <;> split <;>
    first | rfl | (exfalso; omega)

end Emg

namespace Emg
variable {K : Type} [Field K] [LinearOrder K] [IsStrictOrderedRing K]

/-- the two linear-interpolation weights of an odd fine node are non-negative … -/
theorem P1_node_weights_nonneg (h : ℕ → K) (hpos : ∀ i, 0 < h i) (j : ℕ) :
    0 ≤ h j / (h (j-1) + h j) ∧ 0 ≤ h (j-1) / (h (j-1) + h j) := by
  have h1 := hpos j; have h2 := hpos (j-1)
  constructor <;> positivity

/-- … and sum to one -/
theorem P1_node_weights_sum_one (h : ℕ → K) (hpos : ∀ i, 0 < h i) (j : ℕ) :
    h j / (h (j-1) + h j) + h (j-1) / (h (j-1) + h j) = 1 := by
  have h1 := hpos j; have h2 := hpos (j-1)
  have : h (j-1) + h j ≠ 0 := by positivity
  field_simp; ring

theorem P1_const (m : Mode) (h : ℕ → K) (hpos : ∀ i, 0 < h i) (i : ℕ) :
    P1 m h (fun _ => (1:K)) i = 1 := by
  cases m with
  | idn => rfl
  | cell => rfl
  | node =>
    simp only [P1]
    split
    · rfl
    · have := P1_node_weights_sum_one h hpos i
      rw [mul_one, mul_one]; exact this

/-- **the prolongation weights of every fine edge sum to one** (constants are reproduced) -/
theorem P3_const (mx my mz : Mode) (g : Grid K) (hx : ∀ i, 0 < g.hx i) (hy : ∀ i, 0 < g.hy i)
    (hz : ∀ i, 0 < g.hz i) (i j k : ℕ) : P3 mx my mz g (fun _ _ _ => (1:K)) i j k = 1 := by
  simp only [P3, P1_const mx g.hx hx, P1_const my g.hy hy, P1_const mz g.hz hz]

end Emg

namespace Emg
variable {K : Type} [Field K]

/-! ## coarse grid and coarse model -/

/-- position of node `k`: origin + sum of the first `k` widths -/
def nodePos (x0 : K) (h : ℕ → K) (k : ℕ) : K := x0 + ∑ i ∈ range k, h i

/-- **the coarse grid consists of every second node in a coarsened direction** -/
theorem coarse_nodes_every_second (x0 : K) (h : ℕ → K) (I : ℕ) :
    nodePos x0 (fun J => h (2*J) + h (2*J+1)) I = nodePos x0 h (2*I) :=
  congrArg (x0 + ·) (sum_range_two_mul h I).symm

theorem coarseGrid_widths (sc : ℕ) (g : Grid K) :
    (coarsX sc = true → (coarseGrid sc g).hx = fun I => g.hx (2*I) + g.hx (2*I+1)) ∧
    (coarsX sc = false → (coarseGrid sc g).hx = g.hx) := by
  constructor <;> intro h <;> simp [coarseGrid, h]

/-- **each coarse material parameter is the sum of its fine-cell children** (written out for
full coarsening: eight children; semicoarsening patterns give four or two by the same unfolding) -/
theorem restrictParam_children (g : Grid K) (p : F3 K) (I J L : ℕ) :
    restrictParam 0 g p I J L
      = p (2*I) (2*J) (2*L) + p (2*I+1) (2*J) (2*L) + p (2*I) (2*J+1) (2*L) + p (2*I+1) (2*J+1) (2*L)
      + p (2*I) (2*J) (2*L+1) + p (2*I+1) (2*J) (2*L+1) + p (2*I) (2*J+1) (2*L+1)
      + p (2*I+1) (2*J+1) (2*L+1) ∧
    restrictParam 4 g p I J L = p (2*I) J L + p (2*I+1) J L ∧
    restrictParam 1 g p I J L
      = p I (2*J) (2*L) + p I (2*J+1) (2*L) + p I (2*J) (2*L+1) + p I (2*J+1) (2*L+1) := by
  refine ⟨?_, ?_, ?_⟩ <;>
    simp [restrictParam, R3, R1, along, coarsX, coarsY, coarsZ] <;> ring

/-- a predicate closed under addition passes from the fine cells to the coarse cells of the model
restriction (one direction, then all three) -/
theorem R1_along_closed (P : K → Prop) (hadd : ∀ x y, P x → P y → P (x + y)) (c : Bool)
    (h : ℕ → K) (n : ℕ) (r : ℕ → K) (hr : ∀ i, i < n → P (r i)) (I : ℕ) (hI : I < cN c n) :
    P (R1 (along c) h n r I) := by
  cases c
  · exact hr I hI
  · simp only [cN, if_true] at hI
    exact hadd _ _ (hr _ (by omega)) (hr _ (by omega))

theorem R1_along_closed_all (P : K → Prop) (hadd : ∀ x y, P x → P y → P (x + y)) (c : Bool)
    (h : ℕ → K) (n : ℕ) (r : ℕ → K) (hr : ∀ i, P (r i)) (I : ℕ) : P (R1 (along c) h n r I) := by
  cases c
  · exact hr I
  · exact hadd _ _ (hr _) (hr _)

theorem restrictParam_closed (P : K → Prop) (hadd : ∀ x y, P x → P y → P (x + y)) (csc : ℕ)
    (g : Grid K) (f : F3 K) (hf : ∀ i j k, i < g.nx → j < g.ny → k < g.nz → P (f i j k))
    (I J L : ℕ) (hI : I < (coarseGrid csc g).nx) (hJ : J < (coarseGrid csc g).ny)
    (hL : L < (coarseGrid csc g).nz) : P (restrictParam csc g f I J L) :=
  R1_along_closed P hadd _ _ _ _ (fun i hi =>
    R1_along_closed P hadd _ _ _ _ (fun j hj =>
      R1_along_closed P hadd _ _ _ _ (fun k hk => hf i j k hi hj hk) L hL) J hJ) I hI

theorem restrictParam_closed_all (P : K → Prop) (hadd : ∀ x y, P x → P y → P (x + y)) (csc : ℕ)
    (g : Grid K) (f : F3 K) (hf : ∀ i j k, P (f i j k)) (I J L : ℕ) :
    P (restrictParam csc g f I J L) :=
  R1_along_closed_all P hadd _ _ _ _ (fun i =>
    R1_along_closed_all P hadd _ _ _ _ (fun j =>
      R1_along_closed_all P hadd _ _ _ _ (fun k => hf i j k) L) J) I

/-- **volume-weighted parameters are conserved by the model restriction**: the sum over the
coarse grid equals the sum over the fine grid, for all seven patterns. -/
theorem restrictParam_conserves (sc : ℕ) (g : Grid K) (hg : Coarsenable sc g) (p : F3 K) :
    S3 (coarseGrid sc g).nx (coarseGrid sc g).ny (coarseGrid sc g).nz (restrictParam sc g p)
      = S3 g.nx g.ny g.nz p := by
  have h := adj3 (adj1 _ _ _ hg.1).1 (adj1 _ _ _ hg.2.1).1 (adj1 _ _ _ hg.2.2).1 p
    (fun _ _ _ => 1) (fun _ _ _ h => h.elim) (fun _ _ _ h => h.elim) (fun _ _ _ h => h.elim)
  have hP : ∀ (c : Bool) (h : ℕ → K) (i : ℕ), P1 (along c) h (fun _ => (1:K)) i = 1 :=
    fun c h i => by cases c <;> rfl
  simp only [P3, hP, mul_one] at h
  exact h


/-- the dual-cell formulation of the restriction weights (Eq. 9 of the reference, as coded
with nodes, cell centres and half dual cells) reduces to the closed form used by the model -/
theorem restrict_weights_closed_form (x a b : K) (hab : a + b ≠ 0) (h2 : (2:K) ≠ 0) :
    ((x + a + b/2) - (x + (a + b)/2)) / ((a + b)/2) = a / (a + b) ∧
    ((x + (a + b)/2) - (x + a/2)) / ((a + b)/2) = b / (a + b) := by
  constructor <;> field_simp <;> ring

end Emg

