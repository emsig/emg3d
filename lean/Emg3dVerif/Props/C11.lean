import Emg3dVerif.Model.ProcessMap
import Emg3dVerif.Lemmas.ListRange
import Mathlib.Data.List.Perm.Basic
import Mathlib.Data.List.Nodup
/-!
# C11 — survey results do not depend on worker count, scheduling or file-based mode

`PMap` models the collection logic of `process_map` and the slot bookkeeping of the
simulation (tied to the code by `harness/c11.py`: adversarial task latencies, 1…16 workers,
with/without progress bar; bit-identity of real simulations across execution settings).
-/
namespace PMap

theorem find_completion {α β : Type} (f : α → β) (xs : List α) (d : α) (order : List Nat) (i : Nat)
    (hi : i ∈ order) :
    ((completions f xs order d).find? (·.1 == i)).map (·.2) = some (f (xs.getD i d)) := by
  induction order with
  | nil => cases hi
  | cons j t ih =>
    simp only [completions, List.map_cons, List.find?_cons]
    by_cases hji : j = i
    · subst hji; simp
    · have : (j == i) = false := by simpa using hji
      simp only [this]
      have hit : i ∈ t := by
        rcases List.mem_cons.1 hi with h | h
        · exact absurd h.symm hji
        · exact h
      exact ih hit

/-- every index in `order` gets its own result; `order` may hold more, or an index twice -/
theorem collectOrdered_completions {α β : Type} (f : α → β) (xs : List α) (d : α)
    (order : List Nat) (n : Nat) (h : ∀ i < n, i ∈ order) :
    collectOrdered n (completions f xs order d)
      = (List.range n).map fun i => some (f (xs.getD i d)) :=
  List.map_congr_left fun i hi => find_completion f xs d order i (h i (List.mem_range.1 hi))

/-- **For every completion order (and hence every worker count and scheduling) the returned
list is `inputs.map f`**: slot `i` of the result is the result of task `i`. -/
theorem process_map_order {α β : Type} (f : α → β) (xs : List α) (d : α) (order : List Nat)
    (hperm : order.Perm (List.range xs.length)) :
    collectOrdered xs.length (completions f xs order d) = (xs.map f).map some := by
  rw [collectOrdered_completions f xs d order _ fun i hi => hperm.symm.subset (List.mem_range.2 hi),
    List.map_map]
  conv_rhs => rw [← List.map_getD_range xs d, List.map_map]
  rfl

/-- results are a deterministic function of the inputs: two runs with different completion
orders return the same list -/
theorem results_deterministic {α β : Type} (f : α → β) (xs : List α) (d : α) (o1 o2 : List Nat)
    (h1 : o1.Perm (List.range xs.length)) (h2 : o2.Perm (List.range xs.length)) :
    collectOrdered xs.length (completions f xs o1 d)
      = collectOrdered xs.length (completions f xs o2 d) := by
  rw [process_map_order f xs d o1 h1, process_map_order f xs d o2 h2]

/-- an `as_completed` collector would *not* have this property: two tasks finishing in reverse
order swap their results -/
theorem unordered_breaks_slots :
    collectUnordered (completions (fun x : Nat => x * 10) [1, 2] [1, 0] 0) ≠ [1, 2].map (· * 10) := by
  decide

/-- **every source–frequency slot receives the result of its own task** -/
theorem slots_get_own_result {S F β : Type} [DecidableEq S] [DecidableEq F]
    (pairs : List (S × F)) (hn : pairs.Nodup) (g : S × F → β) (s : S) (f : F)
    (h : (s, f) ∈ pairs) : storeBack pairs (pairs.map g) s f = some (g (s, f)) := by
  unfold storeBack
  have hsome : (pairs.findIdx? fun p => p.1 = s ∧ p.2 = f).isSome := by
    rw [List.findIdx?_isSome]
    exact List.any_eq_true.2 ⟨(s, f), h, decide_eq_true ⟨rfl, rfl⟩⟩
  obtain ⟨i, hi⟩ := Option.isSome_iff_exists.1 hsome
  rw [hi]
  -- the index found holds the pair `(s, f)`, and `out[i] = g pairs[i]`
  obtain ⟨hlt, hp, -⟩ := List.findIdx?_eq_some_iff_getElem.1 hi
  have e : pairs[i] = (s, f) := Prod.ext (of_decide_eq_true hp).1 (of_decide_eq_true hp).2
  show (pairs.map g)[i]? = _
  rw [List.getElem?_map, List.getElem?_eq_getElem hlt, Option.map_some, e]

/-- the task list contains every pair exactly once -/
theorem srcfreq_nodup {S F : Type} (srcs : List S) (freqs : List F) (hs : srcs.Nodup)
    (hf : freqs.Nodup) : (srcfreq srcs freqs).Nodup :=
  hs.product hf

/-- file names of distinct tasks can collide when names contain `_` (known finding) -/
theorem file_names_collision_counterexample :
    fname "efield" "a_b" "c" = fname "efield" "a" "b_c" ∧ ("a_b", "c") ≠ ("a", "b_c") := by
  decide

/-- a list splits in one way only at the first occurrence of `c` -/
theorem split_unique {α : Type} [DecidableEq α] (c : α) (a a' b b' : List α) (ha : c ∉ a)
    (ha' : c ∉ a') (h : a ++ c :: b = a' ++ c :: b') : a = a' ∧ b = b' := by
  have hl : ∀ a b, c ∉ a → (a ++ c :: b).idxOf c = a.length := fun a b ha => by
    rw [List.idxOf_append_of_notMem ha, List.idxOf_cons_self, Nat.add_zero]
  have := List.append_inj h (by rw [← hl a b ha, h, hl a' b' ha'])
  exact ⟨this.1, (List.cons.inj this.2).2⟩

theorem fname_toList (what s f : String) :
    (fname what s f).toList
      = what.toList ++ '_' :: (s.toList ++ '_' :: (f.toList ++ ".h5".toList)) := by
  unfold fname
  simp only [String.toList_append, List.append_assoc]
  rfl

/-- **file names are injective for names without `_`** (the default names `TxED-1`, `f-1`, …) -/
theorem file_names_injective_partial (what s s' f f' : String)
    (hs : '_' ∉ s.toList) (hs' : '_' ∉ s'.toList)
    (h : fname what s f = fname what s' f') : s = s' ∧ f = f' := by
  have h1 := congrArg String.toList h
  rw [fname_toList, fname_toList] at h1
  have h2 := split_unique '_' _ _ _ _ hs hs' (List.cons.inj (List.append_cancel_left h1)).2
  exact ⟨String.toList_inj.1 h2.1, String.toList_inj.1 (List.append_cancel_right h2.2)⟩
end PMap
