import Emg3dVerif.Lemmas.Adjoint
import Emg3dVerif.Model.Gradient
import Emg3dVerif.Props.C08
import Mathlib.Algebra.Order.Field.Basic
/-!
# C07 — the adjoint-state gradient is the derivative of the data misfit

* matrix level (over ℂ): expansion of the misfit, finite differences = `t·⟨g, v⟩ + t²·ρ`;
* glue (`Model/Gradient.lean`, any commutative ring / field): distribution of edge values to
  cells is the transpose of the cell → edge averaging, anisotropy collection is the transpose of
  the stacking used by `jvec`.
-/
open Matrix BigOperators

namespace Adj
variable {E C D : Type} [Fintype E] [Fintype C] [Fintype D] [DecidableEq E]

/-- the misfit `½ Σ wᵢ |dᵢ − obsᵢ|²` (weight 0 for missing data) -/
noncomputable def misfit (wt : D → ℝ) (obs d : D → ℂ) : ℝ :=
  (1/2) * ∑ i, wt i * Complex.normSq (d i - obs i)

/-- change of the misfit when the data change by `Δ` -/
theorem misfit_expansion (wt : D → ℝ) (obs d Δ : D → ℂ) :
    misfit wt obs (fun i => d i + Δ i) - misfit wt obs d =
      (∑ i, wt i * (star (d i - obs i) * Δ i).re) +
      (1/2) * ∑ i, wt i * Complex.normSq (Δ i) := by
  unfold misfit
  simp only [Finset.mul_sum, ← Finset.sum_sub_distrib, ← Finset.sum_add_distrib]
  refine Finset.sum_congr rfl fun i _ => ?_
  rw [add_sub_right_comm, add_comm, Complex.normSq_add, mul_comm (Δ i), Complex.star_def]
  ring

/-- along a real line `d + t·Q` in data space the misfit is a quadratic polynomial in `t` -/
theorem misfit_line (wt : D → ℝ) (obs d Q : D → ℂ) (t : ℝ) :
    misfit wt obs (fun i => d i + (t : ℂ) * Q i) - misfit wt obs d =
      t * (∑ i, wt i * (star (d i - obs i) * Q i).re) +
      t * t * ((1/2) * ∑ i, wt i * Complex.normSq (Q i)) := by
  rw [misfit_expansion wt obs d fun i => (t : ℂ) * Q i]
  simp only [mul_left_comm _ (t : ℂ), Complex.re_ofReal_mul, Complex.normSq_mul,
    Complex.normSq_ofReal, Finset.mul_sum]
  rw [← Finset.sum_add_distrib, ← Finset.sum_add_distrib]
  exact Finset.sum_congr rfl fun i _ => by ring

/-- **the gradient is the derivative of the misfit.**  With `A_t = A + t·diag(c·G v)`, data
`d_t = P A_t⁻¹ s`, residual `r = d − obs`, the gradient `g = jtvec (−c) … (w ⊙ r)` (the adjoint
pipeline applied to the weighted residual) satisfies

`φ(σ + t v) − φ(σ) = t · ⟨g, v⟩ + t² · ρ(t)`

with `ρ` written out (regular at `t = 0`): central differences converge at second order. -/
theorem gradient_is_derivative {A B Ainv Binv : Matrix E E ℂ} (c : ℂ) (G : Matrix E C ℂ)
    (v : C → ℝ) (t : ℝ) (P : Matrix D E ℂ) (s : E → ℂ) (wt : D → ℝ) (obs : D → ℂ)
    (hs : Ainvᵀ = Ainv) (hA : Ainv * A = 1) (hB : B * Binv = 1)
    (hBA : B = A + (t : ℂ) • Matrix.diagonal (fun ed => c * (G *ᵥ (fun c => (v c : ℂ))) ed)) :
    let d := P *ᵥ (Ainv *ᵥ s)
    let dt := P *ᵥ (Binv *ᵥ s)
    let r := fun i => d i - obs i
    let J := jvec (-c) P Ainv (Ainv *ᵥ s) G v
    let R := P *ᵥ ((Ainv * Matrix.diagonal (fun ed => c * (G *ᵥ (fun c => (v c : ℂ))) ed) *
        Ainv * Matrix.diagonal (fun ed => c * (G *ᵥ (fun c => (v c : ℂ))) ed) * Binv) *ᵥ s)
    let g := jtvec (-c) P Ainv (Ainv *ᵥ s) G (fun i => (wt i : ℂ) * r i)
    misfit wt obs dt - misfit wt obs d =
      t * (∑ cc, g cc * v cc) +
      t * t * ((∑ i, wt i * (star (r i) * R i).re) +
        (1/2) * ∑ i, wt i * Complex.normSq (J i + (t : ℂ) * R i)) := by
  intro d dt r J R g
  have hd : dt = fun i => d i + (t : ℂ) * (J i + (t : ℂ) * R i) := by
    funext i
    have hi := congrFun (jvec_is_derivative c G v (t : ℂ) P s hA hB hBA) i
    simp only [Pi.sub_apply, Pi.add_apply, Pi.smul_apply, smul_eq_mul] at hi
    show dt i = d i + (t : ℂ) * (J i + (t : ℂ) * R i)
    linear_combination hi
  -- the part linear in `J` is `⟨g, v⟩` by adjointness; the rest goes to the remainder
  have h1 : ∑ i, wt i * (star (d i - obs i) * (J i + (t : ℂ) * R i)).re =
      ∑ cc, g cc * v cc + t * ∑ i, wt i * (star (r i) * R i).re := by
    rw [← jtvec_adjoint (-c) P Ainv hs (Ainv *ᵥ s) G v (fun i => (wt i : ℂ) * r i), Complex.re_sum,
      Finset.mul_sum, ← Finset.sum_add_distrib]
    refine Finset.sum_congr rfl fun i _ => ?_
    rw [mul_add, Complex.add_re, mul_left_comm _ (t : ℂ), Complex.re_ofReal_mul, star_mul',
      Complex.star_def, Complex.conj_ofReal, mul_assoc, Complex.re_ofReal_mul]
    ring
  rw [hd, misfit_line, h1]
  ring

end Adj

/-! ## glue -/
namespace Grad
variable {K : Type} [Field K]

def dot : List K → List K → K
  | a :: s, b :: t => a * b + dot s t
  | _, _ => 0

/-- **anisotropy cases**: collecting the raw x/y/z gradients (`gradient`) is the transpose of
the stacking of a model vector to x/y/z values (`jvec`); the number of components follows the
case -/
theorem collect_stack_adjoint (c : Case) (gx gy gz : K) (v : List K) (hv : v.length = c.ncomp) :
    dot (collect c gx gy gz) v =
      gx * (stack c v).1 + gy * (stack c v).2.1 + gz * (stack c v).2.2 ∧
    (collect c gx gy gz).length = c.ncomp := by
  cases c
  · match v, hv with
    | [a], _ => exact ⟨by simp only [collect, stack, dot]; ring, rfl⟩
  · match v, hv with
    | [a, b], _ => exact ⟨by simp only [collect, stack, dot]; ring, rfl⟩
  · match v, hv with
    | [a, b], _ => exact ⟨by simp only [collect, stack, dot]; ring, rfl⟩
  · match v, hv with
    | [a, b, d], _ => exact ⟨by simp only [collect, stack, dot]; ring, rfl⟩

/-- the model's hand-rolled sum and repeated addition are `Finset.sum` over a range and `•`;
the glue theorems are read off Mathlib's lemmas through these two -/
theorem sumTo_eq_sum (n : Nat) (f : Nat → K) : sumTo n f = ∑ i ∈ Finset.range n, f i := by
  induction n with
  | zero => rfl
  | succ n ih => rw [sumTo, ih, Finset.sum_range_succ]

theorem times_eq_nsmul (m : Nat) (x : K) : times m x = m • x := by
  induction m with
  | zero => exact (zero_nsmul x).symm
  | succ m ih => rw [times, ih, succ_nsmul]

/-- cell → edge averaging that `interp_edges_to_vol_averages` transposes (x-component): edge
`(i, jn, kn)` gets `V/4 · v` from its (clamped) adjacent cells -/
def avgX (ny nz : Nat) (vol v : Nat → Nat → Nat → K) (i jn kn : Nat) : K :=
  sumTo ny fun j => sumTo nz fun k =>
    times (hits ny jn j * hits nz kn k) (vol i j k * v i j k / 4)

/-- **edges → cells is the transpose of cells → edges** (x-component; y and z alike): for every
cell vector `v` and edge field `ex`, `Σ_cells v · toVolX(ex) = Σ_edges ex · avgX(v)` -/
theorem toVolX_adjoint (ny nz : Nat) (vol v ex : Nat → Nat → Nat → K) (i : Nat) :
    sumTo ny (fun j => sumTo nz (fun k => v i j k * toVolX ny nz vol ex i j k)) =
    sumTo (ny + 1) (fun jn => sumTo (nz + 1) (fun kn => ex i jn kn * avgX ny nz vol v i jn kn)) := by
  simp only [toVolX, avgX, sumTo_eq_sum, times_eq_nsmul, Finset.mul_sum, mul_smul_comm]
  -- move the two edge sums (over `range (_ + 1)`) outside the two cell sums
  simp only [Finset.sum_comm (s := Finset.range ny) (t := Finset.range (_ + 1)),
    Finset.sum_comm (s := Finset.range nz) (t := Finset.range (_ + 1))]
  congr! 5
  ring

/-- one-dimensional gather over node `n` of `N` cells: its two (clamped) adjacent cells; at the
boundary the same cell twice -/
theorem sum_hits (N n : Nat) (g : Nat → K) (hN : 0 < N) (hn : n ≤ N) :
    ∑ c ∈ Finset.range N, hits N n c • g c = g (n - 1) + g (min (N - 1) n) := by
  have h1 : n - 1 < N := by omega
  have h2 : min (N - 1) n < N := by omega
  simp only [hits, add_smul, ite_smul, one_smul, zero_smul, Finset.sum_add_distrib,
    Finset.sum_ite_eq, Finset.mem_range, h1, h2, if_true]

/-- **link to the operator of C02**: for an interior x-edge the transpose of the edges → cells
distribution is the four-cell average `¼ Σ V·v` over the cells sharing the edge — the pattern
with which `σ` enters the system matrix (`M_edge(η)`, C02) -/
theorem avgX_interior (ny nz : Nat) (vol v : Nat → Nat → Nat → K) (i jn kn : Nat)
    (hj0 : 0 < jn) (hj1 : jn < ny) (hk0 : 0 < kn) (hk1 : kn < nz) :
    avgX ny nz vol v i jn kn =
      vol i (jn-1) (kn-1) * v i (jn-1) (kn-1) / 4 + vol i (jn-1) kn * v i (jn-1) kn / 4 +
      (vol i jn (kn-1) * v i jn (kn-1) / 4 + vol i jn kn * v i jn kn / 4) := by
  have hj : min (ny - 1) jn = jn := by omega
  have hk : min (nz - 1) kn = kn := by omega
  simp only [avgX, sumTo_eq_sum, times_eq_nsmul, mul_smul, ← Finset.smul_sum,
    sum_hits nz kn _ (by omega) hk1.le, sum_hits ny jn _ (by omega) hj1.le, hj, hk]

end Grad
