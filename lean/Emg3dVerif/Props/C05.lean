import Emg3dVerif.Lemmas.Hier
/-!
# C05 — grid hierarchy and V/W/F cycling are well-formed

Property theorems about `MGH.mgTrace` (the control model of `emg3d.solver.multigrid`,
tied to the code by the event-trace correspondence of `harness/c05.py`).
All statements hold for every shape with at least two cells per direction, every
semicoarsening direction `sc ≤ 3`, every user limit, with no bound on sizes or depth.
-/
namespace MGH

/-- shape on level `l` as the recursion produces it: repeated `restriction` -/
def shapeAt (sc : Nat) (s : Shape) : Nat → Shape
  | 0 => s
  | l+1 => coarsen (currentScDir sc (shapeAt sc s l)) (shapeAt sc s l)

/-- closed form: every non-excluded direction halved `min l (halvings n)` times -/
def closedShape (sc : Nat) (s : Shape) (l : Nat) : Shape :=
  (dirAt (sc == 1) s.1 l, dirAt (sc == 2) s.2.1 l, dirAt (sc == 3) s.2.2 l)

def allBlocked (sc : Nat) (t : Shape) : Bool :=
  blocked t.1 (sc == 1) && blocked t.2.1 (sc == 2) && blocked t.2.2 (sc == 3)

def Ge2 (s : Shape) : Prop := 2 ≤ s.1 ∧ 2 ≤ s.2.1 ∧ 2 ≤ s.2.2

/-- `coarsen` direction by direction: a factor-1 direction is kept, a factor-2 direction halved -/
theorem coarsen_eq (csc : Nat) (s : Shape) : coarsen csc s =
    (if csc == 1 || csc == 5 || csc == 6 then s.1 else s.1 / 2,
     if csc == 2 || csc == 4 || csc == 6 then s.2.1 else s.2.1 / 2,
     if csc == 3 || csc == 4 || csc == 5 then s.2.2 else s.2.2 / 2) := by
  have k : ∀ (b : Bool) (n : Nat),
      (n + 1 + ((if b then 1 else 2) - 1)) / (if b then 1 else 2) - 1 = if b then n else n / 2 := by
    intro b n
    cases b
    · simp only [Bool.false_eq_true, if_false]; omega
    · simp
  simp only [coarsen, k]

/-- the code `_current_sc_dir` computes from the three "cannot be halved" flags -/
def scCode (x y z : Bool) : Nat :=
  if x then (if y then 6 else if z then 5 else 1) else if y then (if z then 4 else 2)
  else if z then 3 else 0

theorem currentScDir_eq (sc : Nat) (s : Shape) : currentScDir sc s =
    scCode (blocked s.1 (sc == 1)) (blocked s.2.1 (sc == 2)) (blocked s.2.2 (sc == 3)) := rfl

/-- unless all three flags are set, the code names exactly the flagged directions; with all three
set it is 6, which names x and y only (the fall-through that would halve z regardless) -/
theorem scCode_table : ∀ x y z : Bool, (x && y && z) = false →
    (scCode x y z == 1 || scCode x y z == 5 || scCode x y z == 6) = x ∧
    (scCode x y z == 2 || scCode x y z == 4 || scCode x y z == 6) = y ∧
    (scCode x y z == 3 || scCode x y z == 4 || scCode x y z == 5) = z := by decide

/-- `restriction` halves exactly the directions that are even, larger than two and not the
semicoarsening direction — provided at least one such direction exists (otherwise the code's
fall-through `c_sc_dir = 6` would halve z regardless). -/
theorem coarsen_of_unblocked (sc : Nat) (t : Shape) (h : allBlocked sc t = false) :
    coarsen (currentScDir sc t) t
      = (stepDir (sc == 1) t.1, stepDir (sc == 2) t.2.1, stepDir (sc == 3) t.2.2) := by
  obtain ⟨hx, hy, hz⟩ := scCode_table _ _ _ h
  rw [coarsen_eq, currentScDir_eq, hx, hy, hz]
  rfl

/-- below the coarsest level some direction can still be halved -/
theorem exists_unblocked (user : Option Nat) (sc : Nat) (s : Shape) (hs : Ge2 s) (hsc : sc ≤ 3)
    (l : Nat) (hl : l < table (clevelDirs user s) sc) :
    allBlocked sc (closedShape sc s l) = false := by
  -- otherwise every direction is excluded or used up, and then `table … ≤ l`
  apply Bool.eq_false_iff.2
  intro hb
  simp only [allBlocked, closedShape, blocked_dirAt _ _ _ hs.1, blocked_dirAt _ _ _ hs.2.1,
    blocked_dirAt _ _ _ hs.2.2, Bool.and_eq_true, Bool.or_eq_true, beq_iff_eq,
    decide_eq_true_eq] at hb
  have := lim_le user (halvings s.1)
  have := lim_le user (halvings s.2.1)
  have := lim_le user (halvings s.2.2)
  exact Nat.not_le.2 hl ((table_le_iff _ l sc hsc).2 (by simp only [clevelDirs]; omega))

/-- **Descent invariant.**  On every level `l` up to the coarsest level `D = clevel[sc]` the
recursion's grid is the closed form: only directions that are even and larger than two, and
never the semicoarsening direction, have been halved; below `D` at least one direction is
halved (the degenerate "halve z anyway" branch is unreachable). -/
theorem descent_invariant (user : Option Nat) (sc : Nat) (s : Shape) (hs : Ge2 s) (hsc : sc ≤ 3) :
    ∀ l, l ≤ table (clevelDirs user s) sc →
      shapeAt sc s l = closedShape sc s l ∧
      (l < table (clevelDirs user s) sc → allBlocked sc (shapeAt sc s l) = false) := by
  intro l hl
  have e : shapeAt sc s l = closedShape sc s l := by
    induction l with
    | zero => simp [shapeAt, closedShape, dirAt]
    | succ l ih =>
      have e := ih (by omega)
      rw [shapeAt, coarsen_of_unblocked, e]
      · simp only [closedShape, stepDir_dirAt _ _ l hs.1, stepDir_dirAt _ _ l hs.2.1,
          stepDir_dirAt _ _ l hs.2.2]
      · rw [e]; exact exists_unblocked user sc s hs hsc l (by omega)
  exact ⟨e, fun hl' => e ▸ exists_unblocked user sc s hs hsc l hl'⟩

/-- no level has fewer than two cells in any direction -/
theorem shapeAt_ge_two (user : Option Nat) (sc : Nat) (s : Shape) (hs : Ge2 s) (hsc : sc ≤ 3)
    (l : Nat) (hl : l ≤ table (clevelDirs user s) sc) : Ge2 (shapeAt sc s l) := by
  rw [(descent_invariant user sc s hs hsc l hl).1]
  exact ⟨dirAt_ge_two _ _ l hs.1, dirAt_ge_two _ _ l hs.2.1, dirAt_ge_two _ _ l hs.2.2⟩

/-- what the header announces per direction: `n / 2^clevel_i`; the semicoarsening direction is
not coarsened at all -/
def announced (user : Option Nat) (sc : Nat) (s : Shape) : Shape :=
  let c := clevelDirs user s
  (if sc == 1 then s.1 else s.1 / 2 ^ c.1,
   if sc == 2 then s.2.1 else s.2.1 / 2 ^ c.2.1,
   if sc == 3 then s.2.2 else s.2.2 / 2 ^ c.2.2)

/-- on a level `D` that the user's limit allows and the direction's own limit does not exceed,
the direction has been halved `lim user (halvings n)` times -/
theorem dirAt_bottom (user : Option Nat) (excl : Bool) (n D : Nat)
    (h1 : excl = false → lim user (halvings n) ≤ D) (h2 : ∀ u, user = some u → D ≤ u) :
    dirAt excl n D = if excl then n else n / 2 ^ lim user (halvings n) := by
  cases excl
  · have := h1 rfl
    have e : min D (halvings n) = lim user (halvings n) := by
      cases user with
      | none => rw [lim_none] at this ⊢; omega
      | some u => have hu := h2 u rfl; rw [lim_some] at this ⊢; omega
    simp only [dirAt, Bool.false_eq_true, if_false, e]
  · rfl

theorem table_le_user (u : Nat) (s : Shape) (sc : Nat) (hsc : sc ≤ 3) :
    table (clevelDirs (some u) s) sc ≤ u :=
  (table_le_iff _ u sc hsc).2
    ⟨fun _ => lim_le_user u _, fun _ => lim_le_user u _, fun _ => lim_le_user u _⟩

/-- **The recursion bottoms out exactly at the announced coarsest grid.**  On level
`D = clevel[sc]` the grid is `n_i / 2^{clevel_i}` in every coarsened direction. -/
theorem bottom_exact (user : Option Nat) (sc : Nat) (s : Shape) (hs : Ge2 s) (hsc : sc ≤ 3) :
    shapeAt sc s (table (clevelDirs user s) sc) = announced user sc s := by
  rw [(descent_invariant user sc s hs hsc _ (Nat.le_refl _)).1]
  have hu : ∀ u, user = some u → table (clevelDirs user s) sc ≤ u :=
    fun u hu => hu ▸ table_le_user u s sc hsc
  obtain ⟨h1, h2, h3⟩ := (table_le_iff (clevelDirs user s) _ sc hsc).1 (Nat.le_refl _)
  simp only [closedShape, announced]
  rw [dirAt_bottom user _ s.1 _ (fun h => h1 (by simpa using h)) hu,
    dirAt_bottom user _ s.2.1 _ (fun h => h2 (by simpa using h)) hu,
    dirAt_bottom user _ s.2.2 _ (fun h => h3 (by simpa using h)) hu]
  rfl

/-- without semicoarsening the bottom grid is the "Coarsest grid" of the solver header -/
theorem bottom_matches_header (user : Option Nat) (s : Shape) (hs : Ge2 s) :
    shapeAt 0 s (table (clevelDirs user s) 0) = reprShape user s := by
  rw [bottom_exact user 0 s hs (by omega)]
  simp [announced, reprShape]


/-! ## Events of the recursion -/

/-- one descent from level `level`: pre-smoothing, restriction, what happens below (`mid`),
prolongation, post-smoothing.  Both `passes` and `fineIter` are built from it. -/
def descent (cfg : Cfg) (sc lr level : Nat) (s : Shape) (mid : List Ev) : List Ev :=
  pre cfg level s lr ++ [Ev.restrict level s (currentScDir sc s) (coarsen (currentScDir sc s) s)] ++
    mid ++ [Ev.prolong level s (currentScDir sc s)] ++ post cfg level s lr

/-- `cycmax` of a recursive call entered with `new_cycmax = nc` -/
def effCyc (cfg : Cfg) (nc : Nat) : Nat := if nc == 0 || !cfg.isF then cfg.cycmax else nc

theorem passes_succ (cfg : Cfg) (sc lr fuel level nc : Nat) (s : Shape) :
    passes cfg sc lr (fuel+1) level nc s = Ev.enter level nc s ::
      (List.range (effCyc cfg nc)).flatMap fun it => descent cfg sc lr level s
        (passes cfg sc lr fuel (level+1) (effCyc cfg nc - it) (coarsen (currentScDir sc s) s)) := rfl

theorem fineIter_succ (cfg : Cfg) (D sc lr cm : Nat) (s : Shape) :
    fineIter cfg (D+1) sc lr cm s
      = descent cfg sc lr 0 s (passes cfg sc lr D 1 cm (coarsen (currentScDir sc s) s)) := rfl

/-- a well-formed event of a cycle with directions `sc`, `lr` and depth `D` on the grid `s0`:
its level is within the depth, its shape is the `shapeAt` of its level, its codes are the
current ones; a cycle end is none -/
def Ev.Good (sc lr D : Nat) (s0 : Shape) : Ev → Prop
  | .enter l _ s => l ≤ D ∧ s = shapeAt sc s0 l
  | .smooth l s _ clr => l ≤ D ∧ s = shapeAt sc s0 l ∧ clr = currentLrDir lr s
  | .restrict l s csc cs =>
      l < D ∧ s = shapeAt sc s0 l ∧ csc = currentScDir sc s ∧ cs = shapeAt sc s0 (l+1)
  | .prolong l s csc => l < D ∧ s = shapeAt sc s0 l ∧ csc = currentScDir sc s
  | .cycleEnd _ _ _ => False

/-- an optional smoothing call (`pre`, `post`) on the grid of its level is well-formed -/
theorem smooth_good {sc lr D l nu : Nat} {s0 : Shape} {ev : Ev} (hl : l ≤ D)
    (h : ev ∈ if nu > 0 then
      [Ev.smooth l (shapeAt sc s0 l) nu (currentLrDir lr (shapeAt sc s0 l))] else []) :
    Ev.Good sc lr D s0 ev := by
  split at h
  · cases List.mem_singleton.1 h
    exact ⟨hl, rfl, rfl⟩
  · cases h

theorem descent_good {cfg : Cfg} {sc lr D l : Nat} {s0 : Shape} {mid : List Ev} (hl : l < D)
    (hmid : ∀ ev ∈ mid, Ev.Good sc lr D s0 ev) :
    ∀ ev ∈ descent cfg sc lr l (shapeAt sc s0 l) mid, Ev.Good sc lr D s0 ev := by
  intro ev hev
  simp only [descent, List.mem_append, List.mem_singleton] at hev
  rcases hev with (((hev | rfl) | hev) | rfl) | hev
  · exact smooth_good (Nat.le_of_lt hl) hev
  · exact ⟨hl, rfl, rfl, rfl⟩
  · exact hmid ev hev
  · exact ⟨hl, rfl, rfl⟩
  · exact smooth_good (Nat.le_of_lt hl) hev

theorem passes_good (cfg : Cfg) (sc lr D : Nat) (s0 : Shape) :
    ∀ fuel level nc, level + fuel = D →
      ∀ ev ∈ passes cfg sc lr fuel level nc (shapeAt sc s0 level), Ev.Good sc lr D s0 ev := by
  intro fuel
  induction fuel with
  | zero =>
    intro level nc h ev hev
    simp only [passes, List.mem_cons, List.mem_nil_iff, or_false] at hev
    rcases hev with rfl | rfl
    · exact ⟨by omega, rfl⟩
    · exact ⟨by omega, rfl, rfl⟩
  | succ fuel ih =>
    intro level nc h ev hev
    rw [passes_succ, List.mem_cons, List.mem_flatMap] at hev
    rcases hev with rfl | ⟨it, _, hev⟩
    · exact ⟨by omega, rfl⟩
    · exact descent_good (by omega) (ih (level+1) _ (by omega)) ev hev

theorem fineIter_good (cfg : Cfg) (sc lr cm D : Nat) (s0 : Shape) :
    ∀ ev ∈ fineIter cfg D sc lr cm s0, Ev.Good sc lr D s0 ev := by
  cases D with
  | zero => intro ev hev; cases List.mem_singleton.1 hev; exact ⟨Nat.le_refl _, rfl, rfl⟩
  | succ D =>
    rw [fineIter_succ]
    exact descent_good (s0 := s0) (l := 0) (by omega)
      (passes_good cfg sc lr (D+1) s0 D 1 cm (by omega))

/-! ## Level order of V, W and F cycles -/


def smoothLevels (l : List Ev) : List Nat :=
  l.filterMap (fun e => match e with | .smooth l _ _ _ => some l | _ => none)

def seqV : Nat → Nat → List Nat
  | 0, l => [l]
  | k+1, l => l :: seqV k (l+1) ++ [l]
def seqW : Nat → Nat → List Nat
  | 0, l => [l]
  | k+1, l => (l :: seqW k (l+1) ++ [l]) ++ (l :: seqW k (l+1) ++ [l])
def seqF : Nat → Nat → List Nat
  | 0, l => [l]
  | k+1, l => (l :: seqF k (l+1) ++ [l]) ++ (l :: seqV k (l+1) ++ [l])

theorem smoothLevels_append (a b : List Ev) :
    smoothLevels (a ++ b) = smoothLevels a ++ smoothLevels b :=
  List.filterMap_append ..

theorem smoothLevels_descent (cfg : Cfg) (sc lr l : Nat) (s : Shape) (mid : List Ev)
    (h1 : cfg.nuPre > 0) (h2 : cfg.nuPost > 0) :
    smoothLevels (descent cfg sc lr l s mid) = l :: smoothLevels mid ++ [l] := by
  simp only [descent, pre, post, if_pos h1, if_pos h2, smoothLevels_append]
  show [l] ++ [] ++ smoothLevels mid ++ [] ++ [l] = _
  rw [List.append_nil, List.append_nil]
  rfl

theorem effCyc_one {cfg : Cfg} {nc : Nat} (h : effCyc cfg nc = 1) : effCyc cfg 1 = 1 := by
  unfold effCyc at *
  cases hF : cfg.isF <;> simp_all

/-- a call whose `cycmax` is 1 is a V cycle all the way down: V cycles proper, and the second
half of every level of an F cycle -/
theorem passes_levels_one (cfg : Cfg) (sc lr : Nat) (h1 : cfg.nuPre > 0) (h2 : cfg.nuPost > 0) :
    ∀ fuel level nc s, effCyc cfg nc = 1 →
      smoothLevels (passes cfg sc lr fuel level nc s) = seqV fuel level := by
  intro fuel
  induction fuel with
  | zero => intro level nc s _; rfl
  | succ fuel ih =>
    intro level nc s h
    rw [passes_succ, h]
    simp only [List.range_one, List.flatMap_cons, List.flatMap_nil, List.append_nil]
    rw [← List.singleton_append, smoothLevels_append, smoothLevels_descent _ _ _ _ _ _ h1 h2,
      ih _ _ _ (effCyc_one h)]
    rfl

theorem passes_levels_V (cfg : Cfg) (sc lr : Nat) (hc : cfg.cycmax = 1) (hF : cfg.isF = false)
    (h1 : cfg.nuPre > 0) (h2 : cfg.nuPost > 0) (fuel level nc : Nat) (s : Shape) :
    smoothLevels (passes cfg sc lr fuel level nc s) = seqV fuel level :=
  passes_levels_one cfg sc lr h1 h2 fuel level nc s (by simp [effCyc, hF, hc])

theorem passes_levels_W (cfg : Cfg) (sc lr : Nat) (hc : cfg.cycmax = 2) (hF : cfg.isF = false)
    (h1 : cfg.nuPre > 0) (h2 : cfg.nuPost > 0) :
    ∀ fuel level nc s, smoothLevels (passes cfg sc lr fuel level nc s) = seqW fuel level := by
  intro fuel
  induction fuel with
  | zero => intro level nc s; rfl
  | succ fuel ih =>
    intro level nc s
    have e : effCyc cfg nc = 2 := by simp [effCyc, hF, hc]
    rw [passes_succ, e]
    simp only [List.range_succ, List.range_zero, List.nil_append, List.flatMap_append,
      List.flatMap_cons, List.flatMap_nil, List.append_nil]
    rw [← List.singleton_append, smoothLevels_append, smoothLevels_append,
      smoothLevels_descent _ _ _ _ _ _ h1 h2, smoothLevels_descent _ _ _ _ _ _ h1 h2, ih, ih]
    rfl

theorem passes_levels_F (cfg : Cfg) (sc lr : Nat) (hF : cfg.isF = true)
    (h1 : cfg.nuPre > 0) (h2 : cfg.nuPost > 0) :
    ∀ fuel level s, smoothLevels (passes cfg sc lr fuel level 2 s) = seqF fuel level := by
  intro fuel
  induction fuel with
  | zero => intro level s; rfl
  | succ fuel ih =>
    intro level s
    have e : effCyc cfg 2 = 2 := by simp [effCyc, hF]
    rw [passes_succ, e]
    simp only [List.range_succ, List.range_zero, List.nil_append, List.flatMap_append,
      List.flatMap_cons, List.flatMap_nil, List.append_nil]
    -- the first descent hands down `new_cycmax = 2` (an F cycle), the second 1 (a V cycle)
    rw [← List.singleton_append, smoothLevels_append, smoothLevels_append,
      smoothLevels_descent _ _ _ _ _ _ h1 h2, smoothLevels_descent _ _ _ _ _ _ h1 h2, ih,
      passes_levels_one cfg sc lr h1 h2 _ _ _ _ (by simp [effCyc, hF])]
    rfl

/-- the visits of a level are those inside the descents from the levels above it -/
theorem count_wrap {l m : Nat} (hne : l ≠ m) (X : List Nat) :
    (l :: X ++ [l]).count m = X.count m := by
  simp [hne]

theorem count_seqV (k : Nat) : ∀ l m, l + k = m → (seqV k l).count m = 1 := by
  induction k with
  | zero => intro l m h; subst h; simp [seqV]
  | succ k ih =>
    intro l m h
    rw [seqV, count_wrap (by omega), ih (l+1) m (by omega)]

theorem count_seqW (k : Nat) : ∀ l m, l + k = m → (seqW k l).count m = 2 ^ k := by
  induction k with
  | zero => intro l m h; subst h; simp [seqW]
  | succ k ih =>
    intro l m h
    rw [seqW, List.count_append, count_wrap (by omega), ih (l+1) m (by omega), Nat.pow_succ]
    omega

theorem count_seqF (k : Nat) : ∀ l m, l + k = m → (seqF k l).count m = k + 1 := by
  induction k with
  | zero => intro l m h; subst h; simp [seqF]
  | succ k ih =>
    intro l m h
    rw [seqF, List.count_append, count_wrap (by omega), count_wrap (by omega),
      ih (l+1) m (by omega), count_seqV k (l+1) m (by omega)]

/-! ## The fine-grid loop -/

/-- the fine-grid cycle `k` (0-based position in the direction patterns) as it should be:
directions `pattern[k mod len]`, depth and level-0 `cycmax` belonging to *that* direction -/
def cycleOf (r : Run) (k : Nat) : List Ev :=
  let D := table (clevelDirs r.user r.shape) (pat r.scPat k)
  fineIter r.cfg D (pat r.scPat k) (pat r.lrPat k) (cycmaxEntry r.cfg D) r.shape

/-- specification of the fine-grid loop: no carried `cycmax`, no conditional advance -/
def cyclesSpec (r : Run) : Nat → Nat → Nat → List Ev
  | 0, _, _ => []
  | n+1, k, it =>
      cycleOf r k ++ [Ev.cycleEnd (it+1) (pat r.scPat (k+1)) (pat r.lrPat (k+1))] ++
      cyclesSpec r n (k+1) (it+1)

/-- the conditional `next()` of the code is an unconditional step in the cyclic pattern -/
theorem pat_advance (p : List Nat) (k : Nat) :
    (if p.length > 1 then pat p (k+1) else pat p k) = pat p (k+1) := by
  split
  · rfl
  · match p with
    | [] => rfl
    | [_] => simp [pat, Nat.mod_one]
    | _ :: _ :: _ => simp at *

/-- **Directions advance cyclically, exactly once per fine-grid cycle, and the cycle type is
re-evaluated for every direction**: the coded loop (carried `cycmax`, conditional `next()`)
equals the specification. -/
theorem cycmax_follows_direction (r : Run) : ∀ n k it,
    fineLoop r n k it (cycmaxEntry r.cfg (table (clevelDirs r.user r.shape) (pat r.scPat k)))
      = cyclesSpec r n k it := by
  intro n
  induction n with
  | zero => intro k it; rfl
  | succ n ih =>
    intro k it
    have e : (if r.scPat.length > 1 then
          cycmaxEntry r.cfg (table (clevelDirs r.user r.shape) (pat r.scPat (k+1)))
        else cycmaxEntry r.cfg (table (clevelDirs r.user r.shape) (pat r.scPat k)))
        = cycmaxEntry r.cfg (table (clevelDirs r.user r.shape) (pat r.scPat (k+1))) := by
      rw [← pat_advance r.scPat k]; split <;> rfl
    simp only [fineLoop, cyclesSpec, cycleOf, pat_advance, e, ih]

/-- the whole trace is: entry, optional initial smoothing, then the specified cycles -/
theorem mgTrace_eq_spec (r : Run) :
    mgTrace r = [Ev.enter 0 0 r.shape] ++
      (if r.cfg.nuInit > 0 then
        [Ev.smooth 0 r.shape r.cfg.nuInit (currentLrDir (pat r.lrPat r.k0) r.shape)] else []) ++
      cyclesSpec r r.ncyc r.k0 0 := by
  simp only [mgTrace]
  rw [cycmax_follows_direction]

/-- **The trace invariant**: every event is a well-formed event of some cycle `j` (counted in the
direction patterns), or a cycle end. -/
theorem mgTrace_good (r : Run) (ev : Ev) (h : ev ∈ mgTrace r) :
    (∃ j, Ev.Good (pat r.scPat j) (pat r.lrPat j)
      (table (clevelDirs r.user r.shape) (pat r.scPat j)) r.shape ev) ∨
    ∃ a b c, ev = Ev.cycleEnd a b c := by
  rw [mgTrace_eq_spec] at h
  simp only [List.mem_append, List.mem_singleton] at h
  rcases h with (rfl | h) | h
  · exact Or.inl ⟨r.k0, Nat.zero_le _, rfl⟩
  · exact Or.inl ⟨r.k0, smooth_good (Nat.zero_le _) h⟩
  · generalize r.ncyc = n at h
    generalize r.k0 = k at h
    generalize 0 = it at h
    induction n generalizing k it with
    | zero => cases h
    | succ n ih =>
      simp only [cyclesSpec, List.mem_append, List.mem_singleton] at h
      rcases h with (h | h) | h
      · exact Or.inl ⟨k, fineIter_good _ _ _ _ _ _ ev h⟩
      · exact Or.inr ⟨_, _, _, h⟩
      · exact ih _ _ h

def cycleEnds (l : List Ev) : List Ev :=
  l.filter (fun e => match e with | .cycleEnd _ _ _ => true | _ => false)

theorem cycleEnds_append (a b : List Ev) : cycleEnds (a ++ b) = cycleEnds a ++ cycleEnds b :=
  List.filter_append ..

theorem fineIter_no_cycleEnd (cfg : Cfg) (D sc lr cm : Nat) (s : Shape) :
    cycleEnds (fineIter cfg D sc lr cm s) = [] := by
  rw [cycleEnds, List.filter_eq_nil_iff]
  intro ev hev
  have g := fineIter_good cfg sc lr cm D s ev hev
  cases ev <;> first | exact Bool.false_ne_true | exact g.elim

theorem dirs_advance_spec (r : Run) : ∀ n k it,
    cycleEnds (cyclesSpec r n k it)
      = (List.range n).map (fun i =>
          Ev.cycleEnd (it+i+1) (pat r.scPat (k+i+1)) (pat r.lrPat (k+i+1))) := by
  intro n
  induction n with
  | zero => intro k it; rfl
  | succ n ih =>
    intro k it
    rw [cyclesSpec, cycleEnds_append, cycleEnds_append, cycleOf, fineIter_no_cycleEnd, ih,
      List.range_succ_eq_map, List.map_cons, List.map_map]
    simp only [Function.comp_def, Nat.add_right_comm _ 1]
    rfl

/-- **Directions advance cyclically, exactly once per fine-grid cycle** (also when the
multigrid call is a preconditioner call entered at pattern position `k0`). -/
theorem dirs_advance_once_per_cycle (r : Run) :
    cycleEnds (mgTrace r) = (List.range r.ncyc).map (fun i =>
      Ev.cycleEnd (i+1) (pat r.scPat (r.k0+i+1)) (pat r.lrPat (r.k0+i+1))) := by
  rw [mgTrace_eq_spec, cycleEnds_append, cycleEnds_append, dirs_advance_spec]
  simp only [Nat.zero_add]
  split <;> rfl

/-! ## Level order per fine-grid cycle -/

/-- documented V cycle from level 0 with coarsest level `D` -/
def cycV (D : Nat) : List Nat := seqV D 0
/-- documented W cycle: one descent from the finest grid, two on every coarser level -/
def cycW : Nat → List Nat
  | 0 => [0]
  | D+1 => 0 :: seqW D 1 ++ [0]
/-- documented F cycle: on every coarser level an F cycle followed by a V cycle -/
def cycF : Nat → List Nat
  | 0 => [0]
  | D+1 => 0 :: seqF D 1 ++ [0]

theorem cycle_levels_V (cfg : Cfg) (D sc lr cm : Nat) (s : Shape) (hc : cfg.cycmax = 1)
    (hF : cfg.isF = false) (h1 : cfg.nuPre > 0) (h2 : cfg.nuPost > 0) :
    smoothLevels (fineIter cfg D sc lr cm s) = cycV D := by
  cases D with
  | zero => rfl
  | succ D =>
    rw [fineIter_succ, smoothLevels_descent _ _ _ _ _ _ h1 h2,
      passes_levels_V cfg sc lr hc hF h1 h2]
    rfl

theorem cycle_levels_W (cfg : Cfg) (D sc lr cm : Nat) (s : Shape) (hc : cfg.cycmax = 2)
    (hF : cfg.isF = false) (h1 : cfg.nuPre > 0) (h2 : cfg.nuPost > 0) :
    smoothLevels (fineIter cfg D sc lr cm s) = cycW D := by
  cases D with
  | zero => rfl
  | succ D =>
    rw [fineIter_succ, smoothLevels_descent _ _ _ _ _ _ h1 h2,
      passes_levels_W cfg sc lr hc hF h1 h2]
    rfl

theorem cycle_levels_F (cfg : Cfg) (D sc lr : Nat) (s : Shape) (hc : cfg.cycmax = 2)
    (hF : cfg.isF = true) (h1 : cfg.nuPre > 0) (h2 : cfg.nuPost > 0) :
    smoothLevels (fineIter cfg D sc lr (cycmaxEntry cfg D) s) = cycF D := by
  cases D with
  | zero => rfl
  | succ D =>
    have hcm : cycmaxEntry cfg (D+1) = 2 := hc
    rw [fineIter_succ, smoothLevels_descent _ _ _ _ _ _ h1 h2, hcm,
      passes_levels_F cfg sc lr hF h1 h2]
    rfl

/-- number of visits of the coarsest level in one fine-grid cycle: V 1, W 2^(D-1), F D -/
theorem coarsest_visits_V (D : Nat) : (cycV D).count D = 1 := count_seqV D 0 D (by omega)

theorem coarsest_visits_W (D : Nat) : (cycW (D+1)).count (D+1) = 2 ^ D := by
  rw [cycW, count_wrap (by omega), count_seqW D 1 (D+1) (by omega)]

theorem coarsest_visits_F (D : Nat) : (cycF (D+1)).count (D+1) = D + 1 := by
  rw [cycF, count_wrap (by omega), count_seqF D 1 (D+1) (by omega)]

/-! ## Consequences for every event of the trace -/

def lrAdapt (c : Nat) (bx bY bz : Bool) : Nat :=
  let c := if bx then (if c == 1 then 0 else if c == 5 then 3 else if c == 6 then 2 else if c == 7 then 4 else c) else c
  let c := if bY then (if c == 2 then 0 else if c == 4 then 3 else if c == 6 then 1 else if c == 7 then 5 else c) else c
  let c := if bz then (if c == 3 then 0 else if c == 4 then 2 else if c == 5 then 1 else if c == 7 then 6 else c) else c
  c

theorem lrAdapt_table : ∀ (lr : Fin 8) (bx bY bz : Bool),
    (lrX (lrAdapt lr.val bx bY bz) = true → bx = false) ∧
    (lrY (lrAdapt lr.val bx bY bz) = true → bY = false) ∧
    (lrZ (lrAdapt lr.val bx bY bz) = true → bz = false) := by decide

/-- **Line relaxation is never applied along a two-cell direction** (`_current_lr_dir`, for every
admissible code 0…7 and every shape). -/
theorem no_line_relaxation_on_two_cells (lr : Nat) (hlr : lr ≤ 7) (s : Shape) :
    (lrX (currentLrDir lr s) = true → s.1 ≠ 2) ∧
    (lrY (currentLrDir lr s) = true → s.2.1 ≠ 2) ∧
    (lrZ (currentLrDir lr s) = true → s.2.2 ≠ 2) := by
  -- `currentLrDir lr s` is `lrAdapt lr (s.1 == 2) (s.2.1 == 2) (s.2.2 == 2)` by unfolding
  have h := lrAdapt_table ⟨lr, by omega⟩ (s.1 == 2) (s.2.1 == 2) (s.2.2 == 2)
  simp only [beq_eq_false_iff_ne, ne_eq] at h
  exact h

def patOk (p : List Nat) (bound : Nat) : Prop := p ≠ [] ∧ ∀ x ∈ p, x ≤ bound

theorem pat_le (p : List Nat) (b : Nat) (h : patOk p b) (k : Nat) : pat p k ≤ b := by
  unfold pat
  have hk : k % p.length < p.length := Nat.mod_lt _ (List.length_pos_iff.mpr h.1)
  rw [List.getD_eq_getElem?_getD, List.getElem?_eq_getElem hk]
  exact h.2 _ (List.getElem_mem hk)

/-- **No smoothing call of any run applies line relaxation along a two-cell direction.** -/
theorem smooth_events_no_two_cell_line (r : Run) (hlr : patOk r.lrPat 7)
    (l : Nat) (s : Shape) (nu clr : Nat) (h : Ev.smooth l s nu clr ∈ mgTrace r) :
    (lrX clr = true → s.1 ≠ 2) ∧ (lrY clr = true → s.2.1 ≠ 2) ∧ (lrZ clr = true → s.2.2 ≠ 2) := by
  rcases mgTrace_good r _ h with ⟨j, g⟩ | ⟨_, _, _, h⟩
  · rw [g.2.2]
    exact no_line_relaxation_on_two_cells _ (pat_le _ _ hlr j) _
  · cases h

/-- the shapes carried by an event -/
def Ev.shapes : Ev → List Shape
  | .enter _ _ s => [s]
  | .smooth _ s _ _ => [s]
  | .restrict _ s _ cs => [s, cs]
  | .prolong _ s _ => [s]
  | .cycleEnd _ _ _ => []

/-- the shapes a well-formed event carries are shapes of the descent -/
theorem Ev.Good.shapes {sc lr D : Nat} {s0 : Shape} : ∀ {ev : Ev}, Ev.Good sc lr D s0 ev →
    ∀ t ∈ ev.shapes, ∃ l, l ≤ D ∧ t = shapeAt sc s0 l
  | .enter l _ _, g, t, ht => ⟨l, g.1, List.mem_singleton.1 ht ▸ g.2⟩
  | .smooth l _ _ _, g, t, ht => ⟨l, g.1, List.mem_singleton.1 ht ▸ g.2.1⟩
  | .prolong l _ _, g, t, ht => ⟨l, Nat.le_of_lt g.1, List.mem_singleton.1 ht ▸ g.2.1⟩
  | .restrict l _ _ _, g, t, ht => by
    simp only [Ev.shapes, List.mem_cons, List.mem_nil_iff, or_false] at ht
    rcases ht with rfl | rfl
    · exact ⟨l, Nat.le_of_lt g.1, g.2.1⟩
    · exact ⟨l+1, g.1, g.2.2.2⟩

/-- **No level of any run has fewer than two cells in a direction** (grids of recursion entries,
smoothing calls, restrictions — fine and coarse side — and prolongations). -/
theorem trace_shapes_ge_two (r : Run) (hs : Ge2 r.shape) (hsc : patOk r.scPat 3)
    (ev : Ev) (h : ev ∈ mgTrace r) : ∀ t ∈ ev.shapes, Ge2 t := by
  intro t ht
  rcases mgTrace_good r ev h with ⟨j, g⟩ | ⟨_, _, _, rfl⟩
  · obtain ⟨l, hl, rfl⟩ := g.shapes t ht
    exact shapeAt_ge_two r.user _ r.shape hs (pat_le _ _ hsc j) l hl
  · cases ht

/-! ## Non-vacuity: a concrete run meets the hypotheses, and the model computes on it -/

def exRun : Run :=
  { cfg := { cycmax := 2, isF := true, nuInit := 0, nuPre := 2, nuCoarse := 1, nuPost := 2 },
    user := none, shape := (16, 3, 3), scPat := [1, 2, 3], lrPat := [0], ncyc := 2 }

example : Ge2 exRun.shape ∧ patOk exRun.scPat 3 ∧ patOk exRun.lrPat 7 := by
  refine ⟨by unfold Ge2; decide, ⟨by decide, by decide⟩, ⟨by decide, by decide⟩⟩
example : table (clevelDirs exRun.user exRun.shape) 2 = 3 := by decide +kernel
/-- second cycle of the example (direction 2, depth 3) is a genuine F cycle: 3 coarsest visits -/
example : (smoothLevels (cycleOf exRun 1)).count 3 = 3 := by decide +kernel
example : smoothLevels (cycleOf exRun 1) = cycF 3 := by decide +kernel

end MGH
