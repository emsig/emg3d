import Emg3dVerif.Model.Amat
import Emg3dVerif.Lemmas.Sbp
import Mathlib.Tactic.Ring
import Mathlib.Tactic.FieldSimp
import Mathlib.Tactic.LinearCombination
import Mathlib.Algebra.Field.Basic
/-!
# C02 — the matrix-free operator equals the finite-integration discretisation

`Emg.amat` is the model of `emg3d.core.amat_x` (tied to the code by the exact-arithmetic
correspondence of `harness/c02.py`); `Emg.fitX/Y/Z` is the explicitly assembled operator
`curlᵀ M_face(V/μ_r) curl − M_edge(η)` (`η = −s μ₀ V(σ + s ε)`).  Everything is proved over
an arbitrary field `K` (so in particular for real and complex Laplace parameters), for
arbitrary grid sizes, widths, coefficients and fields.
-/
namespace Emg
variable {K : Type} [Field K]

/-! ## the kernel in normal form -/

/-- The kernel is the assembled operator on interior edges, the mass term alone where the
curl-curl part is masked (`j = 0` or `k = 0`), and writes nothing outside its loop range. -/
theorem amat_x (g : Grid K) (m : VM K) (e : EF K) (i j k : Nat) :
    (amat g m e).x i j k = if i < g.nx ∧ j < g.ny ∧ k < g.nz then
      (if j = 0 ∨ k = 0 then -(meX m i j k * e.x i j k) else fitX g m e i j k) else 0 := by
  simp only [amat, rrx, Bool.and_eq_true, Bool.or_eq_true, decide_eq_true_eq, beq_iff_eq, and_assoc]
  refine if_congr Iff.rfl ?_ rfl
  split
  · simp only [meX, stx]; ring
  · rename_i h
    obtain ⟨j, rfl⟩ := Nat.exists_eq_succ_of_ne_zero fun h0 => h (Or.inl h0)
    obtain ⟨k, rfl⟩ := Nat.exists_eq_succ_of_ne_zero fun h0 => h (Or.inr h0)
    simp only [u3pp, u3pm, u2pp, u2pm, v3pp, v3pm, v2pp, v2pm, stx, fitX, curlTX, fluxY, fluxZ,
      mfY, mfZ, curlY, curlZ, meX, Nat.succ_eq_add_one, Nat.add_sub_cancel]
    ring

theorem amat_y (g : Grid K) (m : VM K) (e : EF K) (i j k : Nat) :
    (amat g m e).y i j k = if i < g.nx ∧ j < g.ny ∧ k < g.nz then
      (if i = 0 ∨ k = 0 then -(meY m i j k * e.y i j k) else fitY g m e i j k) else 0 := by
  simp only [amat, rry, Bool.and_eq_true, Bool.or_eq_true, decide_eq_true_eq, beq_iff_eq, and_assoc]
  refine if_congr Iff.rfl ?_ rfl
  split
  · simp only [meY, sty]; ring
  · rename_i h
    obtain ⟨i, rfl⟩ := Nat.exists_eq_succ_of_ne_zero fun h0 => h (Or.inl h0)
    obtain ⟨k, rfl⟩ := Nat.exists_eq_succ_of_ne_zero fun h0 => h (Or.inr h0)
    simp only [u1pp, u1pm, u3pp, u3mp, v1pp, v1pm, v3pp, v3mp, sty, fitY, curlTY, fluxX, fluxZ,
      mfX, mfZ, curlX, curlZ, meY, Nat.succ_eq_add_one, Nat.add_sub_cancel]
    ring

theorem amat_z (g : Grid K) (m : VM K) (e : EF K) (i j k : Nat) :
    (amat g m e).z i j k = if i < g.nx ∧ j < g.ny ∧ k < g.nz then
      (if i = 0 ∨ j = 0 then -(meZ m i j k * e.z i j k) else fitZ g m e i j k) else 0 := by
  simp only [amat, rrz, Bool.and_eq_true, Bool.or_eq_true, decide_eq_true_eq, beq_iff_eq, and_assoc]
  refine if_congr Iff.rfl ?_ rfl
  split
  · simp only [meZ, stz]; ring
  · rename_i h
    obtain ⟨i, rfl⟩ := Nat.exists_eq_succ_of_ne_zero fun h0 => h (Or.inl h0)
    obtain ⟨j, rfl⟩ := Nat.exists_eq_succ_of_ne_zero fun h0 => h (Or.inr h0)
    simp only [u2pp, u2mp, u1pp, u1mp, v2pp, v2mp, v1pp, v1mp, stz, fitZ, curlTZ, fluxX, fluxY,
      mfX, mfY, curlX, curlY, meZ, Nat.succ_eq_add_one, Nat.add_sub_cancel]
    ring

/-! ## operator = FIT assembly on interior edges; boundary entries -/

theorem amat_eq_fit_x (g : Grid K) (m : VM K) (e : EF K) (i j k : Nat)
    (hi : i < g.nx) (hj : j < g.ny) (hk : k < g.nz) (hj1 : 1 ≤ j) (hk1 : 1 ≤ k) :
    (amat g m e).x i j k = fitX g m e i j k := by
  rw [amat_x, if_pos ⟨hi, hj, hk⟩, if_neg (by omega)]

theorem amat_eq_fit_y (g : Grid K) (m : VM K) (e : EF K) (i j k : Nat)
    (hi : i < g.nx) (hj : j < g.ny) (hk : k < g.nz) (hi1 : 1 ≤ i) (hk1 : 1 ≤ k) :
    (amat g m e).y i j k = fitY g m e i j k := by
  rw [amat_y, if_pos ⟨hi, hj, hk⟩, if_neg (by omega)]

theorem amat_eq_fit_z (g : Grid K) (m : VM K) (e : EF K) (i j k : Nat)
    (hi : i < g.nx) (hj : j < g.ny) (hk : k < g.nz) (hi1 : 1 ≤ i) (hj1 : 1 ≤ j) :
    (amat g m e).z i j k = fitZ g m e i j k := by
  rw [amat_z, if_pos ⟨hi, hj, hk⟩, if_neg (by omega)]

/-- near boundary faces (`j = 0` or `k = 0`): the curl-curl part is masked, only the σ-term
remains — it multiplies a tangential boundary value, which is zero for PEC fields -/
theorem amat_near_boundary_x (g : Grid K) (m : VM K) (e : EF K) (i j k : Nat)
    (hi : i < g.nx) (hj : j < g.ny) (hk : k < g.nz) (hb : j = 0 ∨ k = 0) :
    (amat g m e).x i j k = - (stx m i j k * e.x i j k / 4) := by
  rw [amat_x, if_pos ⟨hi, hj, hk⟩, if_pos hb, meX, div_mul_eq_mul_div]; rfl

/-- far boundary faces are outside the kernel's loop range: never written -/
theorem amat_far_boundary_untouched (g : Grid K) (m : VM K) (e : EF K) (i j k : Nat)
    (hb : g.nx ≤ i ∨ g.ny ≤ j ∨ g.nz ≤ k) :
    (amat g m e).x i j k = 0 ∧ (amat g m e).y i j k = 0 ∧ (amat g m e).z i j k = 0 := by
  have h : ¬ (i < g.nx ∧ j < g.ny ∧ k < g.nz) := by omega
  exact ⟨by rw [amat_x, if_neg h], by rw [amat_y, if_neg h], by rw [amat_z, if_neg h]⟩

/-! ## the curl-curl part annihilates discrete gradients -/

theorem curl_grad_zero (g : Grid K) (phi : F3 K) (i j k : Nat) :
    curlX g (grad g phi) i j k = 0 ∧ curlY g (grad g phi) i j k = 0 ∧
    curlZ g (grad g phi) i j k = 0 := by
  refine ⟨?_, ?_, ?_⟩ <;> simp only [curlX, curlY, curlZ, grad] <;> ring

theorem fit_curlcurl_annihilates_grad (g : Grid K) (m : VM K) (phi : F3 K) (i j k : Nat) :
    curlTX g (fluxY g m (grad g phi)) (fluxZ g m (grad g phi)) i j k = 0 ∧
    curlTY g (fluxX g m (grad g phi)) (fluxZ g m (grad g phi)) i j k = 0 ∧
    curlTZ g (fluxX g m (grad g phi)) (fluxY g m (grad g phi)) i j k = 0 := by
  have h := curl_grad_zero g phi
  refine ⟨?_, ?_, ?_⟩ <;>
    simp only [curlTX, curlTY, curlTZ, fluxX, fluxY, fluxZ, (h _ _ _).1, (h _ _ _).2.1, (h _ _ _).2.2,
      mul_zero, zero_div, sub_zero, add_zero]

/-- on interior edges the kernel applied to a gradient returns the mass term only -/
theorem amat_curlcurl_annihilates_grad (g : Grid K) (m : VM K) (phi : F3 K) (i j k : Nat)
    (hi : i < g.nx) (hj : j < g.ny) (hk : k < g.nz) (hj1 : 1 ≤ j) (hk1 : 1 ≤ k) :
    (amat g m (grad g phi)).x i j k = - (meX m i j k * (grad g phi).x i j k) := by
  rw [amat_eq_fit_x g m _ i j k hi hj hk hj1 hk1, fitX,
    (fit_curlcurl_annihilates_grad g m phi i j k).1, zero_sub]

/-! ## linearity: of the curl, hence of the kernel -/

def EF.add (a b : EF K) : EF K :=
  { x := fun i j k => a.x i j k + b.x i j k, y := fun i j k => a.y i j k + b.y i j k,
    z := fun i j k => a.z i j k + b.z i j k }
def EF.smul (c : K) (a : EF K) : EF K :=
  { x := fun i j k => c * a.x i j k, y := fun i j k => c * a.y i j k, z := fun i j k => c * a.z i j k }

theorem curl_add (g : Grid K) (a b : EF K) (i j k : Nat) :
    curlX g (a.add b) i j k = curlX g a i j k + curlX g b i j k ∧
    curlY g (a.add b) i j k = curlY g a i j k + curlY g b i j k ∧
    curlZ g (a.add b) i j k = curlZ g a i j k + curlZ g b i j k := by
  refine ⟨?_, ?_, ?_⟩ <;> simp only [curlX, curlY, curlZ, EF.add] <;> ring

theorem curl_smul (g : Grid K) (c : K) (a : EF K) (i j k : Nat) :
    curlX g (EF.smul c a) i j k = c * curlX g a i j k ∧
    curlY g (EF.smul c a) i j k = c * curlY g a i j k ∧
    curlZ g (EF.smul c a) i j k = c * curlZ g a i j k := by
  refine ⟨?_, ?_, ?_⟩ <;> simp only [curlX, curlY, curlZ, EF.smul] <;> ring

omit [Field K] in
theorem EF.ext_xyz {a b : EF K} (hx : ∀ i j k, a.x i j k = b.x i j k)
    (hy : ∀ i j k, a.y i j k = b.y i j k) (hz : ∀ i j k, a.z i j k = b.z i j k) : a = b := by
  cases a; cases b
  simp only [EF.mk.injEq]
  exact ⟨funext fun i => funext fun j => funext fun k => hx i j k,
    funext fun i => funext fun j => funext fun k => hy i j k,
    funext fun i => funext fun j => funext fun k => hz i j k⟩

theorem amat_add (g : Grid K) (m : VM K) (a b : EF K) :
    amat g m (a.add b) = (amat g m a).add (amat g m b) := by
  have h := curl_add g a b
  simp only [EF.add] at h ⊢
  apply EF.ext_xyz <;> intro i j k <;>
    simp only [amat_x, amat_y, amat_z, fitX, fitY, fitZ, curlTX, curlTY, curlTZ, fluxX, fluxY, fluxZ,
      (h _ _ _).1, (h _ _ _).2.1, (h _ _ _).2.2] <;>
    split_ifs <;> ring

theorem amat_smul (g : Grid K) (m : VM K) (c : K) (a : EF K) :
    amat g m (EF.smul c a) = EF.smul c (amat g m a) := by
  have h := curl_smul g c a
  simp only [EF.smul] at h ⊢
  apply EF.ext_xyz <;> intro i j k <;>
    simp only [amat_x, amat_y, amat_z, fitX, fitY, fitZ, curlTX, curlTY, curlTZ, fluxX, fluxY, fluxZ,
      (h _ _ _).1, (h _ _ _).2.1, (h _ _ _).2.2] <;>
    split_ifs <;> ring

/-! ## coefficients -/

/-- `eta = −s μ₀ V (σ + s ε₀ ε_r)`; without `ε_r` (diffusive approximation) `−s μ₀ V σ` -/
theorem eta_formula (s mu0 eps0 sigma epsr vol : K) :
    etaCoef (s * mu0) (s * eps0) sigma epsr vol = -(s * mu0 * vol * (sigma + s * eps0 * epsr)) ∧
    etaCoef (s * mu0) (s * eps0) sigma 0 vol = -(s * mu0 * vol * sigma) := by
  constructor <;> simp only [etaCoef] <;> ring

theorem zeta_formula (vol mur : K) (h : mur ≠ 0) : zetaCoef vol mur * mur = vol ∧ zetaCoef vol 1 = vol := by
  constructor
  · simp only [zetaCoef]; field_simp
  · simp [zetaCoef]


/-! ## complex symmetry: `curlᵀ` is the transpose of `curl` (discrete integration by parts) -/
open Finset

/-- vanishing tangential components on the domain boundary -/
structure PEC (g : Grid K) (e : EF K) : Prop where
  x_j0 : ∀ i k, e.x i 0 k = 0
  x_jn : ∀ i k, e.x i g.ny k = 0
  x_k0 : ∀ i j, e.x i j 0 = 0
  x_kn : ∀ i j, e.x i j g.nz = 0
  y_i0 : ∀ j k, e.y 0 j k = 0
  y_in : ∀ j k, e.y g.nx j k = 0
  y_k0 : ∀ i j, e.y i j 0 = 0
  y_kn : ∀ i j, e.y i j g.nz = 0
  z_i0 : ∀ j k, e.z 0 j k = 0
  z_in : ∀ j k, e.z g.nx j k = 0
  z_j0 : ∀ i k, e.z i 0 k = 0
  z_jn : ∀ i k, e.z i g.ny k = 0

/-- the twelve clauses, as they are used: a tangential boundary value is zero -/
theorem PEC.x_zero {g : Grid K} {e : EF K} (h : PEC g e) {i j k : ℕ}
    (hb : j = 0 ∨ j = g.ny ∨ k = 0 ∨ k = g.nz) : e.x i j k = 0 := by
  rcases hb with rfl | rfl | rfl | rfl
  exacts [h.x_j0 _ _, h.x_jn _ _, h.x_k0 _ _, h.x_kn _ _]
theorem PEC.y_zero {g : Grid K} {e : EF K} (h : PEC g e) {i j k : ℕ}
    (hb : i = 0 ∨ i = g.nx ∨ k = 0 ∨ k = g.nz) : e.y i j k = 0 := by
  rcases hb with rfl | rfl | rfl | rfl
  exacts [h.y_i0 _ _, h.y_in _ _, h.y_k0 _ _, h.y_kn _ _]
theorem PEC.z_zero {g : Grid K} {e : EF K} (h : PEC g e) {i j k : ℕ}
    (hb : i = 0 ∨ i = g.nx ∨ j = 0 ∨ j = g.ny) : e.z i j k = 0 := by
  rcases hb with rfl | rfl | rfl | rfl
  exacts [h.z_i0 _ _, h.z_in _ _, h.z_j0 _ _, h.z_jn _ _]

/-- bilinear (no conjugation) inner product of two edge fields over all edges of the grid -/
def edgeDot (g : Grid K) (a b : EF K) : K :=
  S3 g.nx (g.ny+1) (g.nz+1) (fun i j k => a.x i j k * b.x i j k) +
  S3 (g.nx+1) g.ny (g.nz+1) (fun i j k => a.y i j k * b.y i j k) +
  S3 (g.nx+1) (g.ny+1) g.nz (fun i j k => a.z i j k * b.z i j k)

/-- inner product of two face fields over all faces of the grid -/
def faceDot (g : Grid K) (wx wy wz cx cy cz : F3 K) : K :=
  S3 (g.nx+1) g.ny g.nz (fun i j k => wx i j k * cx i j k) +
  S3 g.nx (g.ny+1) g.nz (fun i j k => wy i j k * cy i j k) +
  S3 g.nx g.ny (g.nz+1) (fun i j k => wz i j k * cz i j k)

def curlT (g : Grid K) (wx wy wz : F3 K) : EF K :=
  { x := curlTX g wy wz, y := curlTY g wx wz, z := curlTZ g wx wy }

/-- **`curlᵀ` is the transpose of `curl`** on fields with vanishing tangential boundary
values: discrete integration by parts in three dimensions. -/
theorem curlT_adjoint (g : Grid K) (wx wy wz : F3 K) (v : EF K) (hv : PEC g v) :
    edgeDot g (curlT g wx wy wz) v
      = faceDot g wx wy wz (curlX g v) (curlY g v) (curlZ g v) := by
  -- the six integrations by parts
  have hA := sbp3_j g.nx g.ny (g.nz+1) (fun i j k => wz i j k / g.hy j) v.x hv.x_j0 hv.x_jn
  have hB := sbp3_k g.nx (g.ny+1) g.nz (fun i j k => wy i j k / g.hz k) v.x hv.x_k0 hv.x_kn
  have hC := sbp3_k (g.nx+1) g.ny g.nz (fun i j k => wx i j k / g.hz k) v.y hv.y_k0 hv.y_kn
  have hD := sbp3_i g.nx g.ny (g.nz+1) (fun i j k => wz i j k / g.hx i) v.y hv.y_i0 hv.y_in
  have hE := sbp3_i g.nx (g.ny+1) g.nz (fun i j k => wy i j k / g.hx i) v.z hv.z_i0 hv.z_in
  have hF := sbp3_j (g.nx+1) g.ny g.nz (fun i j k => wx i j k / g.hy j) v.z hv.z_j0 hv.z_jn
  -- each edge component splits into two sums, each integrated by parts
  have eX : S3 g.nx (g.ny+1) (g.nz+1) (fun i j k => (curlT g wx wy wz).x i j k * v.x i j k) = _ :=
    (S3_congr _ _ _ _ _ fun i j k => by simp only [curlT, curlTX]; ring).trans
      ((S3_sub _ _ _ _ _).trans (congrArg₂ (· - ·) hA hB))
  have eY : S3 (g.nx+1) g.ny (g.nz+1) (fun i j k => (curlT g wx wy wz).y i j k * v.y i j k) = _ :=
    (S3_congr _ _ _ _ _ fun i j k => by simp only [curlT, curlTY]; ring).trans
      ((S3_sub _ _ _ _ _).trans (congrArg₂ (· - ·) hC hD))
  have eZ : S3 (g.nx+1) (g.ny+1) g.nz (fun i j k => (curlT g wx wy wz).z i j k * v.z i j k) = _ :=
    (S3_congr _ _ _ _ _ fun i j k => by simp only [curlT, curlTZ]; ring).trans
      ((S3_sub _ _ _ _ _).trans (congrArg₂ (· - ·) hE hF))
  -- each face component splits into the same sums
  have fX : S3 (g.nx+1) g.ny g.nz (fun i j k => wx i j k * curlX g v i j k)
      = S3 (g.nx+1) g.ny g.nz (fun i j k => wx i j k / g.hy j * (v.z i (j+1) k - v.z i j k))
      - S3 (g.nx+1) g.ny g.nz (fun i j k => wx i j k / g.hz k * (v.y i j (k+1) - v.y i j k)) := by
    rw [← S3_sub]; apply S3_congr; intro i j k; simp only [curlX]; ring
  have fY : S3 g.nx (g.ny+1) g.nz (fun i j k => wy i j k * curlY g v i j k)
      = S3 g.nx (g.ny+1) g.nz (fun i j k => wy i j k / g.hz k * (v.x i j (k+1) - v.x i j k))
      - S3 g.nx (g.ny+1) g.nz (fun i j k => wy i j k / g.hx i * (v.z (i+1) j k - v.z i j k)) := by
    rw [← S3_sub]; apply S3_congr; intro i j k; simp only [curlY]; ring
  have fZ : S3 g.nx g.ny (g.nz+1) (fun i j k => wz i j k * curlZ g v i j k)
      = S3 g.nx g.ny (g.nz+1) (fun i j k => wz i j k / g.hx i * (v.y (i+1) j k - v.y i j k))
      - S3 g.nx g.ny (g.nz+1) (fun i j k => wz i j k / g.hy j * (v.x i (j+1) k - v.x i j k)) := by
    rw [← S3_sub]; apply S3_congr; intro i j k; simp only [curlZ]; ring
  simp only [edgeDot, faceDot]
  rw [eX, eY, eZ, fX, fY, fZ]
  ring

def fit (g : Grid K) (m : VM K) (e : EF K) : EF K :=
  { x := fitX g m e, y := fitY g m e, z := fitZ g m e }

def massDot (g : Grid K) (m : VM K) (a b : EF K) : K :=
  S3 g.nx (g.ny+1) (g.nz+1) (fun i j k => meX m i j k * a.x i j k * b.x i j k) +
  S3 (g.nx+1) g.ny (g.nz+1) (fun i j k => meY m i j k * a.y i j k * b.y i j k) +
  S3 (g.nx+1) (g.ny+1) g.nz (fun i j k => meZ m i j k * a.z i j k * b.z i j k)

theorem edgeDot_fit (g : Grid K) (m : VM K) (u v : EF K) (hv : PEC g v) :
    edgeDot g (fit g m u) v
      = faceDot g (fluxX g m u) (fluxY g m u) (fluxZ g m u) (curlX g v) (curlY g v) (curlZ g v)
        - massDot g m u v := by
  rw [← curlT_adjoint g _ _ _ v hv]
  simp only [edgeDot, massDot, fit, curlT, fitX, fitY, fitZ, sub_mul, S3_sub]
  ring

theorem edgeDot_comm (g : Grid K) (a b : EF K) : edgeDot g a b = edgeDot g b a := by
  simp only [edgeDot, mul_comm (a.x _ _ _), mul_comm (a.y _ _ _), mul_comm (a.z _ _ _)]

/-- **The assembled finite-integration operator is complex-symmetric** (bilinear form without
conjugation) on fields with vanishing tangential boundary values. -/
theorem fit_symmetric (g : Grid K) (m : VM K) (u v : EF K) (hu : PEC g u) (hv : PEC g v) :
    edgeDot g (fit g m u) v = edgeDot g u (fit g m v) := by
  rw [edgeDot_comm g u, edgeDot_fit g m u v hv, edgeDot_fit g m v u hu]
  -- both sides are `Σ M_f curl u · curl v − Σ M_e u · v`
  simp only [faceDot, massDot, fluxX, fluxY, fluxZ, mul_right_comm]

/-- a pairing with a PEC field sees interior edges only -/
theorem edgeDot_congr_left (g : Grid K) {a b v : EF K} (hv : PEC g v)
    (hx : ∀ i j k, i < g.nx → 1 ≤ j → j < g.ny → 1 ≤ k → k < g.nz → a.x i j k = b.x i j k)
    (hy : ∀ i j k, 1 ≤ i → i < g.nx → j < g.ny → 1 ≤ k → k < g.nz → a.y i j k = b.y i j k)
    (hz : ∀ i j k, 1 ≤ i → i < g.nx → 1 ≤ j → j < g.ny → k < g.nz → a.z i j k = b.z i j k) :
    edgeDot g a v = edgeDot g b v := by
  refine congrArg₂ (· + ·) (congrArg₂ (· + ·) ?_ ?_) ?_ <;>
    refine S3_congr_mem _ _ _ _ _ fun i j k hi hj hk => ?_
  · by_cases h : 1 ≤ j ∧ j < g.ny ∧ 1 ≤ k ∧ k < g.nz
    · rw [hx i j k hi h.1 h.2.1 h.2.2.1 h.2.2.2]
    · rw [hv.x_zero (by omega), mul_zero, mul_zero]
  · by_cases h : 1 ≤ i ∧ i < g.nx ∧ 1 ≤ k ∧ k < g.nz
    · rw [hy i j k h.1 h.2.1 hj h.2.2.1 h.2.2.2]
    · rw [hv.y_zero (by omega), mul_zero, mul_zero]
  · by_cases h : 1 ≤ i ∧ i < g.nx ∧ 1 ≤ j ∧ j < g.ny
    · rw [hz i j k h.1 h.2.1 h.2.2.1 h.2.2.2 hk]
    · rw [hv.z_zero (by omega), mul_zero, mul_zero]

/-- the kernel and the assembled operator have the same pairing with PEC fields -/
theorem edgeDot_amat_eq_fit (g : Grid K) (m : VM K) (u v : EF K) (hv : PEC g v) :
    edgeDot g (amat g m u) v = edgeDot g (fit g m u) v :=
  edgeDot_congr_left g hv
    (fun i j k hi h1 hj h2 hk => amat_eq_fit_x g m u i j k hi hj hk h1 h2)
    (fun i j k h1 hi hj h2 hk => amat_eq_fit_y g m u i j k hi hj hk h1 h2)
    (fun i j k h1 hi h2 hj hk => amat_eq_fit_z g m u i j k hi hj hk h1 h2)

/-- **The matrix-free operator is complex-symmetric** on PEC fields. -/
theorem amat_symmetric (g : Grid K) (m : VM K) (u v : EF K) (hu : PEC g u) (hv : PEC g v) :
    edgeDot g (amat g m u) v = edgeDot g u (amat g m v) := by
  rw [edgeDot_amat_eq_fit g m u v hv, fit_symmetric g m u v hu hv, edgeDot_comm g u,
    ← edgeDot_amat_eq_fit g m v u hu, edgeDot_comm]


/-! ## non-vacuity -/

/-- a non-zero PEC field on a 2×2×2 grid over ℚ -/
example : PEC (K := ℚ) ⟨2, 2, 2, fun _ => 1, fun _ => 1, fun _ => 1⟩
    ⟨fun _ j k => if j = 1 ∧ k = 1 then 1 else 0, fun _ _ _ => 0, fun _ _ _ => 0⟩ := by
  constructor <;> intros <;> simp

end Emg
