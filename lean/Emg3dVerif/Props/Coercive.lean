import Emg3dVerif.Props.Cycle
import Emg3dVerif.Lemmas.EdgeSum
import Mathlib.Data.Complex.Basic
import Mathlib.Data.Complex.BigOperators
import Mathlib.Algebra.Order.BigOperators.Group.Finset
import Mathlib.Tactic.Linarith
import Mathlib.Tactic.Positivity
set_option linter.unusedSectionVars false
/-!
# Every block system of every smoother is non-singular for physical models

The fixed-point and linearity theorems of C03 (and `mgRun_fixed`) assume `AllInj g m`: the
block systems the smoothers solve are non-singular — the solver's documented precondition.
Here the precondition is *proved* for the models the solver is made for, over `ℂ`:

* real cell widths,
* `ζ = V/μ_r` real and non-negative,
* every `η` of the grid's cells in one open half-plane `a·Re η + b·Im η < 0` with `a ≥ 0`
  — frequency domain (`s = iω`, `η = −iωμ₀(σ + iωε)V`, `Im η < 0`): `(a, b) = (0, 1)`;
  Laplace domain (`s > 0`, `η = −sμ₀(σ + sε)V < 0`): `(a, b) = (1, 0)`.

The argument is the energy identity of C02 (`edgeDot_fit`, summation by parts): for a field
`d` supported on a block whose block rows vanish, `0 = ⟨A d, d̄⟩ = Σ_faces ζ̄|curl d|² −
Σ_edges η̄|d|²`; the half-plane functional of the right-hand side is a sum of non-negative
terms, so every `|d_e|²` vanishes.  The class of models is closed under the coarsening of
`solver.restriction` (sums of children), so the whole hierarchy is covered.
-/
namespace Emg
open Complex Finset MGH

/-- component-wise complex conjugate -/
noncomputable def conjEF (d : EF ℂ) : EF ℂ :=
  ⟨fun i j k => (starRingEnd ℂ) (d.x i j k), fun i j k => (starRingEnd ℂ) (d.y i j k),
   fun i j k => (starRingEnd ℂ) (d.z i j k)⟩

/-- the physical models: real widths, real non-negative `ζ`, all `η` of the grid's cells in the
open half-plane `a Re + b Im < 0` -/
structure Phys (g : Grid ℂ) (m : VM ℂ) (a b : ℝ) : Prop where
  ha : 0 ≤ a
  hx : ∀ i, (starRingEnd ℂ) (g.hx i) = g.hx i
  hy : ∀ i, (starRingEnd ℂ) (g.hy i) = g.hy i
  hz : ∀ i, (starRingEnd ℂ) (g.hz i) = g.hz i
  zeta_im : ∀ i j k, (m.zeta i j k).im = 0
  zeta_re : ∀ i j k, 0 ≤ (m.zeta i j k).re
  etaX : ∀ i j k, i < g.nx → j < g.ny → k < g.nz → a * (m.etaX i j k).re + b * (m.etaX i j k).im < 0
  etaY : ∀ i j k, i < g.nx → j < g.ny → k < g.nz → a * (m.etaY i j k).re + b * (m.etaY i j k).im < 0
  etaZ : ∀ i j k, i < g.nx → j < g.ny → k < g.nz → a * (m.etaZ i j k).re + b * (m.etaZ i j k).im < 0

/-- the half-plane functional, additive -/
def Lw (a b : ℝ) : ℂ →+ ℝ :=
  { toFun := fun z => a * z.re + b * z.im
    map_zero' := by simp
    map_add' := by intro x y; simp only [add_re, add_im]; ring }

theorem Lw_apply (a b : ℝ) (z : ℂ) : Lw a b z = a * z.re + b * z.im := rfl

theorem Lw_mul_conj (a b : ℝ) (e c : ℂ) :
    Lw a b (e * c * (starRingEnd ℂ) c) = (a * e.re + b * e.im) * normSq c := by
  have : e * c * (starRingEnd ℂ) c = e * (normSq c : ℂ) := by rw [mul_assoc, mul_conj]
  rw [this, Lw_apply]
  simp
  ring

/-- `r · c · c̄` with real `r`: real, equal to `r |c|²` -/
theorem Lw_real_mul_conj (a b : ℝ) (r c : ℂ) (hr : r.im = 0) :
    Lw a b (r * c * (starRingEnd ℂ) c) = a * (r.re * normSq c) := by
  rw [Lw_mul_conj, hr, mul_zero, add_zero, mul_assoc]

theorem conjEF_get (d : EF ℂ) (q : Edge) : (conjEF d).get q = (starRingEnd ℂ) (d.get q) := by
  obtain ⟨c, i, j, k⟩ := q
  cases c <;> rfl

section energy
variable {g : Grid ℂ} {m : VM ℂ} {a b : ℝ}

theorem curlX_conj (h : Phys g m a b) (d : EF ℂ) (i j k : ℕ) :
    curlX g (conjEF d) i j k = (starRingEnd ℂ) (curlX g d i j k) := by
  simp only [curlX, conjEF, map_sub, map_div₀, h.hy, h.hz]

theorem curlY_conj (h : Phys g m a b) (d : EF ℂ) (i j k : ℕ) :
    curlY g (conjEF d) i j k = (starRingEnd ℂ) (curlY g d i j k) := by
  simp only [curlY, conjEF, map_sub, map_div₀, h.hx, h.hz]

theorem curlZ_conj (h : Phys g m a b) (d : EF ℂ) (i j k : ℕ) :
    curlZ g (conjEF d) i j k = (starRingEnd ℂ) (curlZ g d i j k) := by
  simp only [curlZ, conjEF, map_sub, map_div₀, h.hx, h.hy]

theorem PEC_conj (d : EF ℂ) (hd : PEC g d) : PEC g (conjEF d) :=
  pec_iff.2 fun q hq => by rw [conjEF_get, pec_iff.1 hd q hq, map_zero]

theorem mf_real (h : Phys g m a b) (i j k : ℕ) :
    ((mfX m i j k).im = 0 ∧ 0 ≤ (mfX m i j k).re) ∧ ((mfY m i j k).im = 0 ∧ 0 ≤ (mfY m i j k).re) ∧
      ((mfZ m i j k).im = 0 ∧ 0 ≤ (mfZ m i j k).re) :=
  mf_closed (fun z : ℂ => z.im = 0 ∧ 0 ≤ z.re)
    (fun x y hx hy =>
      ⟨by rw [add_im, hx.1, hy.1, add_zero], by rw [add_re]; exact add_nonneg hx.2 hy.2⟩)
    (fun x hx => by
      have two : (2 : ℂ) = ((2 : ℝ) : ℂ) := by norm_num
      rw [two, div_ofReal_im, div_ofReal_re, hx.1]
      exact ⟨zero_div _, div_nonneg hx.2 (by norm_num)⟩)
    (fun i j k => ⟨h.zeta_im i j k, h.zeta_re i j k⟩) i j k

theorem Lw_div4 (a b : ℝ) (z : ℂ) (h : Lw a b z < 0) : Lw a b (z / 4) < 0 := by
  have four : (4 : ℂ) = ((4 : ℝ) : ℂ) := by norm_num
  rw [Lw_apply] at h ⊢
  rw [four, div_ofReal_re, div_ofReal_im]
  linarith

/-- the edge average of `η` stays in the half-plane on interior edges -/
theorem Phys.me_half (h : Phys g m a b) (q : Edge) (hq : Interior g.nx g.ny g.nz q) :
    Lw a b (meAt m q) < 0 :=
  meAt_closed (fun z => Lw a b z < 0) (fun x y hx hy => by rw [map_add]; exact add_neg hx hy)
    (Lw_div4 a b) h.etaX h.etaY h.etaZ q hq

end energy

section main
variable {g : Grid ℂ} {m : VM ℂ} {a b : ℝ}

/-- `Lw` of the face term of the energy identity: non-negative -/
theorem Lw_face_nonneg (h : Phys g m a b) (d : EF ℂ) :
    0 ≤ Lw a b (faceDot g (fluxX g m d) (fluxY g m d) (fluxZ g m d)
      (curlX g (conjEF d)) (curlY g (conjEF d)) (curlZ g (conjEF d))) := by
  have sq : ∀ w c : ℂ, w.im = 0 ∧ 0 ≤ w.re → 0 ≤ Lw a b (w * c * (starRingEnd ℂ) c) :=
    fun w c hw => by
      rw [Lw_real_mul_conj a b _ _ hw.1]
      exact mul_nonneg h.ha (mul_nonneg hw.2 (normSq_nonneg _))
  simp only [faceDot, map_add, map_S3, fluxX, fluxY, fluxZ, curlX_conj h, curlY_conj h,
    curlZ_conj h]
  exact add_nonneg (add_nonneg
    (S3_nonneg _ _ _ _ fun i j k _ _ _ => sq _ _ (mf_real h i j k).1)
    (S3_nonneg _ _ _ _ fun i j k _ _ _ => sq _ _ (mf_real h i j k).2.1))
    (S3_nonneg _ _ _ _ fun i j k _ _ _ => sq _ _ (mf_real h i j k).2.2)

/-- **Coercivity**: a field that vanishes outside the interior edges and whose image under the
operator is orthogonal to it edge by edge (`(A d)_q · conj d_q = 0`) is zero. -/
theorem energy_zero (h : Phys g m a b) (d : EF ℂ)
    (hni : ∀ q, ¬ Interior g.nx g.ny g.nz q → d.get q = 0)
    (hterm : ∀ q : Edge, (amat g m d).get q * (conjEF d).get q = 0) : ∀ q, d.get q = 0 := by
  have hpec : PEC g d := pec_of_nonint hni
  have hE : edgeDot g (amat g m d) (conjEF d) = 0 :=
    edgeDot_zero_of_pointwise _ _ fun q _ => hterm q
  -- the energy identity, under the half-plane functional
  have hen := edgeDot_fit g m d (conjEF d) (PEC_conj d hpec)
  rw [← edgeDot_amat_eq_fit g m d (conjEF d) (PEC_conj d hpec), hE] at hen
  have hL := congrArg (Lw a b) hen
  rw [map_zero, map_sub, massDot_eq, map_edgeSum] at hL
  have hF := Lw_face_nonneg h d
  -- the terms of the mass sum are `Lw(η̄_q) |d_q|²`: none is positive, so all vanish
  have hq : ∀ q, Lw a b (meAt m q * d.get q * (conjEF d).get q)
      = Lw a b (meAt m q) * normSq (d.get q) := fun q => by
    rw [conjEF_get, Lw_mul_conj, Lw_apply]
  simp only [hq] at hL
  have hz := edgeSum_terms_zero g (fun q => Lw a b (meAt m q) * normSq (d.get q))
    (fun q _ => by
      by_cases hi : Interior g.nx g.ny g.nz q
      · exact mul_nonpos_of_nonpos_of_nonneg (h.me_half q hi).le (normSq_nonneg _)
      · rw [hni q hi, map_zero, mul_zero])
    (by linarith)
  intro q
  by_cases hi : Interior g.nx g.ny g.nz q
  · rcases mul_eq_zero.1 (hz q (interior_inBox hi)) with h0 | h0
    · exact absurd h0 (h.me_half q hi).ne
    · exact normSq_eq_zero.1 h0
  · exact hni q hi

/-- **Non-singularity of every block of interior edges**, for physical models. -/
theorem blockInj_phys (h : Phys g m a b) (B : List Edge)
    (hB : ∀ q ∈ B, Interior g.nx g.ny g.nz q) : BlockInj g m B := by
  intro d hsupp hrows
  refine energy_zero h d (fun q hq => hsupp q (fun hm => hq (hB q hm))) ?_
  intro q
  by_cases hq : q ∈ B
  · show amatAt g m d q * _ = 0
    rw [hrows q hq, zero_mul]
  · rw [conjEF_get, hsupp q hq, map_zero, mul_zero]

/-- **The discretised system has at most one solution**: two fields with vanishing tangential
boundary values that satisfy all interior equations for the same source coincide. -/
theorem solution_unique_phys (h : Phys g m a b) (s e1 e2 : EF ℂ)
    (h1 : ∀ q, Interior g.nx g.ny g.nz q → amatAt g m e1 q = s.get q)
    (h2 : ∀ q, Interior g.nx g.ny g.nz q → amatAt g m e2 q = s.get q)
    (b1 : ∀ q, ¬ Interior g.nx g.ny g.nz q → e1.get q = 0)
    (b2 : ∀ q, ¬ Interior g.nx g.ny g.nz q → e2.get q = 0) : e1 = e2 := by
  have hd : ∀ q, (e1.sub e2).get q = 0 := by
    refine energy_zero h (e1.sub e2) (fun q hq => ?_) (fun q => ?_)
    · rw [EF.get_sub, b1 q hq, b2 q hq, sub_zero]
    · by_cases hq : Interior g.nx g.ny g.nz q
      · show amatAt g m (e1.sub e2) q * _ = 0
        rw [amatAt_sub, h1 q hq, h2 q hq, sub_self, zero_mul]
      · rw [conjEF_get, EF.get_sub, b1 q hq, b2 q hq, sub_zero, map_zero, mul_zero]
  exact EF.ext_get _ _ fun q => sub_eq_zero.1 ((EF.get_sub e1 e2 q).symm.trans (hd q))

/-- **All block systems of all smoothers are non-singular** for physical models. -/
theorem allInj_phys (h : Phys g m a b) : AllInj g m :=
  fun kernel nu B hB => blockInj_phys h B (kernelBlocks_interior kernel g.nx g.ny g.nz nu B hB)

end main

/-! ## the class of physical models is closed under the coarsening of `solver.restriction` -/

section closure
variable {g : Grid ℂ} {m : VM ℂ} {a b : ℝ}

theorem Phys.coarse (h : Phys g m a b) (csc : ℕ) :
    Phys (coarseGrid csc g) (coarseVM csc g m) a b := by
  have half : ∀ x y : ℂ, a * x.re + b * x.im < 0 → a * y.re + b * y.im < 0 →
      a * (x + y).re + b * (x + y).im < 0 := fun x y hx hy => by
    simp only [add_re, add_im]; linarith
  rw [coarseVM_eq]
  refine ⟨h.ha, ?_, ?_, ?_, ?_, ?_, ?_, ?_, ?_⟩
  · intro i; simp only [coarseGrid]; split <;> simp only [map_add, h.hx]
  · intro i; simp only [coarseGrid]; split <;> simp only [map_add, h.hy]
  · intro i; simp only [coarseGrid]; split <;> simp only [map_add, h.hz]
  · exact restrictParam_closed_all (fun z => z.im = 0)
      (fun x y hx hy => by simp only [add_im, hx, hy, add_zero]) csc g _ h.zeta_im
  · exact restrictParam_closed_all (fun z => 0 ≤ z.re)
      (fun x y hx hy => by simp only [add_re]; exact add_nonneg hx hy) csc g _ h.zeta_re
  · exact restrictParam_closed (fun z => a * z.re + b * z.im < 0) half csc g _ h.etaX
  · exact restrictParam_closed (fun z => a * z.re + b * z.im < 0) half csc g _ h.etaY
  · exact restrictParam_closed (fun z => a * z.re + b * z.im < 0) half csc g _ h.etaZ

theorem Phys.reach {g0 : Grid ℂ} {m0 : VM ℂ} (h : Phys g0 m0 a b) {g : Grid ℂ} {m : VM ℂ}
    (hr : Reach g0 m0 g m) : Phys g m a b :=
  Reach.closed (fun g m => Phys g m a b) (fun _ _ csc hc => hc.coarse csc) h hr

end closure

/-! ## the unconditional statements -/

/-- **C03, unconditional**: every smoothing variant leaves an exact solution of a physical
model unchanged. -/
theorem smoother_fixed_point_phys {g : Grid ℂ} {m : VM ℂ} {a b : ℝ} (h : Phys g m a b)
    (s e : EF ℂ) (nu lr : ℕ)
    (hsol : ∀ d, Interior g.nx g.ny g.nz d → amatAt g m e d = s.get d) :
    (smoothing g m s e nu lr).1 = e :=
  smoother_fixed_point g m s e nu lr (allInj_phys h) hsol

theorem kernel_fixed_point_phys {g : Grid ℂ} {m : VM ℂ} {a b : ℝ} (h : Phys g m a b)
    (s e : EF ℂ) (kernel nu : ℕ) (ok : Bool)
    (hsol : ∀ d, Interior g.nx g.ny g.nz d → amatAt g m e d = s.get d) :
    (runKernel g m s kernel nu (e, ok)).1 = e :=
  kernel_fixed_point g m s e kernel nu ok (allInj_phys h) hsol

/-- **The complete multigrid call, unconditional**: for a physical model on the fine grid —
hence on every grid of the hierarchy — any cycle returns an exact solution unchanged. -/
theorem mgRun_fixed_phys (r : Run) (l0 : Lvl ℂ) {a b : ℝ} (h : Phys l0.g l0.m a b)
    (hS : Solved l0) : ∃ zs, (mgRun r l0).1 = zs ++ [l0] ∧ ∀ z ∈ zs, z.e = zeroEF :=
  mgRun_fixed r l0 hS (fun _ _ hr => allInj_phys (h.reach hr))

/-- … and the call ends with exactly the fine level it was given (balanced trace). -/
theorem mgRun_fixed_exact_phys (r : Run) (l0 : Lvl ℂ) {a b : ℝ} (h : Phys l0.g l0.m a b)
    (hS : Solved l0) : (mgRun r l0).1 = [l0] :=
  mgRun_fixed_exact r l0 hS (fun _ _ hr => allInj_phys (h.reach hr))

/-! ## non-vacuity: the frequency-domain and the Laplace-domain half-planes -/

example : Phys (⟨2, 2, 2, fun _ => 1, fun _ => 1, fun _ => 1⟩ : Grid ℂ)
    ⟨fun _ _ _ => -Complex.I, fun _ _ _ => 1 - 2 * Complex.I, fun _ _ _ => -3 * Complex.I,
     fun _ _ _ => 1⟩ 0 1 := by
  constructor <;> intros <;> simp

example : Phys (⟨4, 2, 6, fun _ => 1, fun _ => 2, fun _ => 3⟩ : Grid ℂ)
    ⟨fun _ _ _ => -1, fun _ _ _ => -2, fun _ _ _ => -1, fun _ _ _ => 1⟩ 1 0 := by
  constructor <;> intros <;> simp [Complex.conj_ofNat]

end Emg
