import Emg3dVerif.Model.Noise
import Emg3dVerif.Lemmas.ListRange
import Mathlib.Data.List.Perm.Basic
/-!
# C13 — misfit and data weights follow the documented noise model and stay untouched

`NoiseM` models the noise bookkeeping of `emg3d.surveys.Survey` and the data misfit (tied to the
code by the operation-sequence correspondence of `harness/c13.py`).
-/
namespace NoiseM

/-! ## standard deviation -/

/-- `ς² = ε_n² + (ε_r |d|)²` when both parameters are set and nothing was set explicitly -/
theorem std_formula (s : Survey) (i j k : Nat) (a r : Rat) (d : Rat × Rat)
    (hstd : s.std = none) (hn : s.noiseFloor.at i j k = some a) (hr : s.relError.at i j k = some r)
    (hd : s.obs i j k = some d) : stdSq s i j k = some (a*a + r*r*normSq d) := by
  simp [stdSq, hstd, hn, hr, hd]

/-- an explicitly set standard deviation has priority -/
theorem std_explicit_wins (s : Survey) (i j k : Nat) (a : A3 Rat) (h : s.std = some a) :
    stdSq s i j k = some (a i j k * a i j k) := by
  simp [stdSq, h]

/-- with nothing defined there is no standard deviation -/
theorem std_none (s : Survey) (i j k : Nat) (h : s.std = none) (hn : s.noiseFloor = .none)
    (hr : s.relError = .none) : stdSq s i j k = none := by
  simp [stdSq, h, hn, hr, Param.at]

/-! ## frame conditions: only the setters change the noise parameters -/

/-- `putData` touches one data set only: never the noise parameters, and `obs` only under
its own name -/
theorem putData_frame (s : Survey) (name : String) (d : A3 Val) :
    (putData s name d).noiseFloor = s.noiseFloor ∧ (putData s name d).relError = s.relError ∧
    (putData s name d).std = s.std ∧ (name ≠ "observed" → (putData s name d).obs = s.obs) := by
  unfold putData
  split
  · exact ⟨rfl, rfl, rfl, fun h => absurd ‹_› h⟩
  · split <;> exact ⟨rfl, rfl, rfl, fun _ => rfl⟩

/-- **`add_noise` never changes noise floor, relative error or the explicit standard deviation**
(whatever cuts, target data set and noise) -/
theorem addNoise_frame (s : Survey) (minO : Rat) (maxO : Option Rat) (useOff : Bool) (m : MinAmp)
    (addTo : String) (offSq : Nat → Nat → Rat) (noise : A3 (Rat × Rat)) :
    (addNoise s minO maxO useOff m addTo offSq noise).noiseFloor = s.noiseFloor ∧
    (addNoise s minO maxO useOff m addTo offSq noise).relError = s.relError ∧
    (addNoise s minO maxO useOff m addTo offSq noise).std = s.std :=
  -- `addNoise s … = putData s addTo _` by unfolding
  have h := putData_frame s addTo _
  ⟨h.1, h.2.1, h.2.2.1⟩

/-- noise added to another data set leaves the observed data alone -/
theorem addNoise_only_addTo (s : Survey) (minO : Rat) (maxO : Option Rat) (useOff : Bool)
    (m : MinAmp) (addTo : String) (offSq : Nat → Nat → Rat) (noise : A3 (Rat × Rat))
    (h : addTo ≠ "observed") :
    (addNoise s minO maxO useOff m addTo offSq noise).obs = s.obs :=
  (putData_frame s addTo _).2.2.2 h

/-- a setter changes only its own parameter -/
theorem setNF_frame (s t : Survey) (v : SetVal) (h : setNF s v = some t) :
    t.relError = s.relError ∧ t.std = s.std ∧ t.obs = s.obs := by
  obtain ⟨p, -, rfl⟩ := Option.map_eq_some_iff.1 h
  exact ⟨rfl, rfl, rfl⟩

/-- non-positive values are rejected (state unchanged, error) -/
theorem setters_reject_nonpositive (d1 d2 d3 : Nat) (vals : A3 Rat)
    (h : allPos d1 d2 d3 vals = false) (s : Survey) :
    setNF s (.arr d1 d2 d3 vals) = none ∧ setRE s (.arr d1 d2 d3 vals) = none := by
  simp [setNF, setRE, mkParam, h]

/-! ## selection -/

theorem Param.sel_at (p : Param) (is js ks : List Nat) (i j k : Nat) :
    (p.sel is js ks).at i j k = p.at (is.getD i 0) (js.getD j 0) (ks.getD k 0) := by
  cases p <;> rfl

/-- **a restriction contains exactly the chosen sub-cube**: data, explicit standard deviation
and array-valued noise parameters alike -/
theorem restrictTo_subcube (s : Survey) (is js ks : List Nat) (i j k : Nat) :
    (restrictTo s is js ks).obs i j k = s.obs (is.getD i 0) (js.getD j 0) (ks.getD k 0) ∧
    (restrictTo s is js ks).noiseFloor.at i j k
      = s.noiseFloor.at (is.getD i 0) (js.getD j 0) (ks.getD k 0) ∧
    (restrictTo s is js ks).relError.at i j k
      = s.relError.at (is.getD i 0) (js.getD j 0) (ks.getD k 0) ∧
    (restrictTo s is js ks).std.map (fun a => a i j k)
      = s.std.map (fun a => a (is.getD i 0) (js.getD j 0) (ks.getD k 0)) :=
  ⟨rfl, Param.sel_at .., Param.sel_at .., by unfold restrictTo; cases s.std <;> rfl⟩

/-- hence the standard deviation of the restriction is that of the sub-cube -/
theorem stdSq_restrictTo (s : Survey) (is js ks : List Nat) (i j k : Nat) :
    stdSq (restrictTo s is js ks) i j k = stdSq s (is.getD i 0) (js.getD j 0) (ks.getD k 0) := by
  unfold stdSq
  simp only [restrictTo, Param.sel_at]
  cases s.std <;> rfl

/-- scalar (or unset) parameters are unchanged by a selection -/
theorem select_frame_scalar (s : Survey) (is js ks : List Nat) :
    (∀ q, s.noiseFloor = .scalar q → (restrictTo s is js ks).noiseFloor = .scalar q) ∧
    (s.noiseFloor = .none → (restrictTo s is js ks).noiseFloor = .none) ∧
    (∀ q, s.relError = .scalar q → (restrictTo s is js ks).relError = .scalar q) ∧
    (s.relError = .none → (restrictTo s is js ks).relError = .none) := by
  -- the restriction applies `Param.sel`, which computes to the identity on these two forms
  have key : ∀ {p q : Param}, p = q → p.sel is js ks = q.sel is js ks := fun h => h ▸ rfl
  exact ⟨fun _ => key, key, fun _ => key, key⟩

/-- `select` without removal of empty entries is the restriction to the named indices, in the
order in which the names were given -/
theorem select_is_subcube (s : Survey) (srcs recs freqs : List String) :
    select s (some srcs) (some recs) (some freqs) false
      = restrictTo s (srcs.map (idxOf s.srcN)) (recs.map (idxOf s.recN)) (freqs.map (idxOf s.freqN)) :=
  rfl

/-! ## misfit -/

/-- `φ = ½ Σ |d_syn − d_obs|²/ς²`, the sum running over the entries with finite observation,
finite synthetic datum and defined standard deviation -/
theorem misfit_formula (s : Survey) (syn : A3 Val) :
    misfit s syn = (misfitTerms s syn).foldl (· + ·) 0 / 2 := rfl

instance : RightCommutative (fun (a b : Rat) => a + b) := ⟨fun a b c => by
  show a + b + c = a + c + b
  rw [Rat.add_assoc, Rat.add_comm b c, ← Rat.add_assoc]⟩

/-- the misfit depends only on the multiset of terms … -/
theorem misfit_of_perm (s t : Survey) (syn syn' : A3 Val)
    (h : (misfitTerms s syn).Perm (misfitTerms t syn')) : misfit s syn = misfit t syn' := by
  unfold misfit
  rw [List.Perm.foldl_eq h]

/-- what datum `(i,j,k)` contributes to the misfit, if anything -/
def misfitTerm (s : Survey) (syn : A3 Val) (i j k : Nat) : Option Rat :=
  match s.obs i j k, syn i j k, stdSq s i j k with
  | some d, some y, some v => some (normSq (y.1 - d.1, y.2 - d.2) / v)
  | _, _, _ => Option.none

theorem misfitTerms_eq (s : Survey) (syn : A3 Val) :
    misfitTerms s syn = (List.range s.ns).flatMap fun i => (List.range s.nr).flatMap fun j =>
      (List.range s.nf).filterMap (misfitTerm s syn i j) := rfl

theorem misfitTerm_restrictTo (s : Survey) (syn : A3 Val) (is js ks : List Nat) (i j k : Nat) :
    misfitTerm (restrictTo s is js ks) (sel3 syn is js ks) i j k
      = misfitTerm s syn (is.getD i 0) (js.getD j 0) (ks.getD k 0) := by
  unfold misfitTerm
  rw [stdSq_restrictTo]
  rfl

/-- the terms of a restriction are those of the chosen entries, in the chosen order -/
theorem misfitTerms_restrictTo (s : Survey) (syn : A3 Val) (is js ks : List Nat) :
    misfitTerms (restrictTo s is js ks) (sel3 syn is js ks)
      = is.flatMap fun i => js.flatMap fun j => ks.filterMap (misfitTerm s syn i j) := by
  conv_rhs => rw [← List.map_getD_range is 0, ← List.map_getD_range js 0, ← List.map_getD_range ks 0]
  simp only [List.flatMap_map, List.filterMap_map]
  rw [misfitTerms_eq]
  simp only [misfitTerm_restrictTo]
  rfl

/-- … hence it is **invariant under any reordering of sources, receivers and frequencies**:
restricting survey and synthetic data to permutations of the index ranges does not change it. -/
theorem misfit_restrictTo_perm (s : Survey) (syn : A3 Val) (is js ks : List Nat)
    (hi : is.Perm (List.range s.ns)) (hj : js.Perm (List.range s.nr))
    (hk : ks.Perm (List.range s.nf)) :
    misfit (restrictTo s is js ks) (sel3 syn is js ks) = misfit s syn := by
  apply misfit_of_perm
  rw [misfitTerms_restrictTo]
  exact (hi.flatMap_right _).trans <| List.Perm.flatMap_left _ fun i _ =>
    (hj.flatMap_right _).trans <| List.Perm.flatMap_left _ fun j _ => hk.filterMap _

/-- the case of the sources alone -/
theorem misfit_perm_invariant (s : Survey) (syn : A3 Val) (is : List Nat)
    (hp : is.Perm (List.range s.ns)) :
    misfit (restrictTo s is (List.range s.nr) (List.range s.nf))
        (sel3 syn is (List.range s.nr) (List.range s.nf)) = misfit s syn :=
  misfit_restrictTo_perm s syn is _ _ hp (.refl _) (.refl _)

end NoiseM
