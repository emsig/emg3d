import Emg3dVerif.Props.C03
import Emg3dVerif.Props.C04
import Emg3dVerif.Model.Cycle
set_option linter.unusedSectionVars false
/-!
# The complete multigrid call is a consistent iteration (C03 at the level of `multigrid`)

`Emg.runTrace` interprets an event trace of the cycling model (C05) with the operator models
of C02 (residual), C03 (smoothers) and C04 (restriction, coarse model, prolongation).

`runTrace_fixed`: for **every** event list — every cycle type, every semicoarsening and
line-relaxation pattern, every number of cycles, every number of smoothing steps, well
bracketed or not — a fine-grid field that solves the system exactly is returned unchanged and
all coarse-grid corrections are exactly zero.  `mgRun_fixed` is the instance for the trace
`MGH.mgTrace` of one `multigrid` call.

Tie to the code: `harness/c03.py`, suite `cycle`: `solver.multigrid` (float64) against
`Emg.mgRun` (exact Gaussian rationals) on the same inputs.
-/
namespace Emg
open MGH

variable {K : Type} [Field K] [DecidableEq K]

theorem matVM_eq (g : Grid K) (m : VM K) : matVM g m = m := by
  cases m
  simp only [matVM, mat3_eq]

theorem residual_eq (g : Grid K) (m : VM K) (s e : EF K) :
    residual g m s e = s.minus (amat g m e) := matEF_eq _ _

theorem zeroEF_get (r : Edge) : (zeroEF : EF K).get r = 0 := by
  obtain ⟨c, i, j, k⟩ := r
  cases c <;> rfl

theorem zero_smulEF (a : EF K) : EF.smul 0 a = zeroEF := by
  simp only [EF.smul, zeroEF, zero_mul]

theorem amat_zero (g : Grid K) (m : VM K) : amat g m (zeroEF : EF K) = zeroEF := by
  have h := amat_smul g m 0 (zeroEF : EF K)
  rwa [zero_smulEF, zero_smulEF] at h

theorem amatAt_zero (g : Grid K) (m : VM K) (r : Edge) : amatAt g m (zeroEF : EF K) r = 0 := by
  rw [amatAt, amat_zero, zeroEF_get]

theorem R1_zero (mode : Mode) (h : ℕ → K) (n I : ℕ) : R1 mode h n (fun _ => (0:K)) I = 0 := by
  cases mode <;> simp [R1]

theorem restrict_zero (sc : ℕ) (g : Grid K) : restrict sc g (zeroEF : EF K) = zeroEF := by
  simp [restrict, R3, R1_zero, zeroEF]

theorem prolong_zero (sc : ℕ) (g : Grid K) (e : EF K) : prolong sc g e (zeroEF : EF K) = e := by
  cases e
  simp [prolong, P3, P1_zero, zeroEF]

/-- the level solves its system exactly: the interior equations hold, and source and field
vanish on all other (tangential boundary) edges -/
def Solved (l : Lvl K) : Prop :=
  (∀ d, Interior l.g.nx l.g.ny l.g.nz d → amatAt l.g l.m l.e d = l.s.get d) ∧
  (∀ d, ¬ Interior l.g.nx l.g.ny l.g.nz d → l.s.get d = 0 ∧ l.e.get d = 0)

/-- on edges outside the interior the operator returns zero for a field that vanishes there: by
the normal form `amat_x/y/z` the near faces carry `−me · e`, everything out of range is 0, and an
edge in range and off the near faces is interior -/
theorem amat_nonint (g : Grid K) (m : VM K) (e : EF K) (d : Edge)
    (hd : ¬ Interior g.nx g.ny g.nz d) (he : e.get d = 0) : (amat g m e).get d = 0 := by
  have key : ∀ (R B : Prop) [Decidable R] [Decidable B] (me v fit : K), v = 0 → ¬ (R ∧ ¬ B) →
      (if R then (if B then -(me * v) else fit) else 0) = 0 := by
    intro R B _ _ me v fit hv h
    split_ifs with hr hb
    · rw [hv, mul_zero, neg_zero]
    · exact absurd ⟨hr, hb⟩ h
    · rfl
  obtain ⟨c, i, j, k⟩ := d
  cases c <;> simp only [EF.get, Interior, amat_x, amat_y, amat_z] at he hd ⊢ <;>
    exact key _ _ _ _ _ he (by omega)

theorem EF.get_minus (a b : EF K) (d : Edge) : (a.minus b).get d = a.get d - b.get d := by
  obtain ⟨c, i, j, k⟩ := d
  cases c <;> rfl

/-- … then the residual `solver.residual` computes is zero on *every* edge -/
theorem residual_of_solved (l : Lvl K) (h : Solved l) : residual l.g l.m l.s l.e = zeroEF := by
  rw [residual_eq]
  apply EF.ext_get
  intro d
  rw [zeroEF_get, EF.get_minus]
  by_cases hd : Interior l.g.nx l.g.ny l.g.nz d
  · show _ - amatAt l.g l.m l.e d = 0
    rw [h.1 d hd, sub_self]
  · obtain ⟨hs, he⟩ := h.2 d hd
    rw [hs, amat_nonint l.g l.m l.e d hd he, sub_zero]

/-- grids and models the recursion can reach from the fine level -/
inductive Reach (g0 : Grid K) (m0 : VM K) : Grid K → VM K → Prop
  | base : Reach g0 m0 g0 m0
  | step (csc : ℕ) {g : Grid K} {m : VM K} :
      Reach g0 m0 g m → Reach g0 m0 (coarseGrid csc g) (coarseVM csc g m)

/-- a coarse level holding a zero problem with a zero field -/
def ZeroL (g0 : Grid K) (m0 : VM K) (z : Lvl K) : Prop :=
  z.s = zeroEF ∧ z.e = zeroEF ∧ Reach g0 m0 z.g z.m

/-- every class of (grid, model) pairs that coarsening preserves holds on every reachable level -/
theorem Reach.closed {g0 : Grid K} {m0 : VM K} (C : Grid K → VM K → Prop)
    (hc : ∀ g m csc, C g m → C (coarseGrid csc g) (coarseVM csc g m)) (h0 : C g0 m0)
    {g : Grid K} {m : VM K} (hr : Reach g0 m0 g m) : C g m := by
  induction hr with
  | base => exact h0
  | step csc _ ih => exact hc _ _ csc ih

theorem coarseVM_eq (csc : ℕ) (g : Grid K) (m : VM K) : coarseVM csc g m =
    { etaX := restrictParam csc g m.etaX, etaY := restrictParam csc g m.etaY
      etaZ := restrictParam csc g m.etaZ, zeta := restrictParam csc g m.zeta } :=
  matVM_eq _ _

/-! ### `smoothing` is `smoothingC` with the code adapted to the grid -/

theorem smoothing_eq_smoothingC (g : Grid K) (m : VM K) (s e : EF K) (nu lr : ℕ) :
    smoothing g m s e nu lr = smoothingC g m s e nu (currentLrDir lr (g.nx, g.ny, g.nz)) := rfl

theorem smoothingC_blocks_interior (nx ny nz nu clr : ℕ) :
    ∀ B ∈ (kernelsOf clr).flatMap (fun kernel => kernelBlocks kernel nx ny nz nu),
      ∀ q ∈ B, Interior nx ny nz q := by
  intro B hB
  obtain ⟨kernel, _, hB⟩ := List.mem_flatMap.1 hB
  exact kernelBlocks_interior kernel nx ny nz nu B hB

theorem AllInj.smoothingC {g : Grid K} {m : VM K} (h : AllInj g m) (nu clr : ℕ) :
    ∀ B ∈ (kernelsOf clr).flatMap (fun kernel => kernelBlocks kernel g.nx g.ny g.nz nu),
      BlockInj g m B := by
  intro B hB
  obtain ⟨kernel, _, hB⟩ := List.mem_flatMap.1 hB
  exact h kernel nu B hB

theorem smoothingC_fixed (g : Grid K) (m : VM K) (s e : EF K) (nu clr : ℕ) (hinj : AllInj g m)
    (hsol : ∀ d, Interior g.nx g.ny g.nz d → amatAt g m e d = s.get d) :
    (smoothingC g m s e nu clr).1 = e :=
  relaxAll_fixed g m s e _ (hinj.smoothingC nu clr)
    (fun B hB r hr => hsol r (smoothingC_blocks_interior _ _ _ _ _ B hB r hr)) true

/-! ### what the three kinds of event do to solved and to zero levels -/

theorem zeroL_solved {g0 : Grid K} {m0 : VM K} {z : Lvl K} (hz : ZeroL g0 m0 z) : Solved z := by
  constructor
  · intro d _; rw [hz.1, hz.2.1, amatAt_zero, zeroEF_get]
  · intro d _; rw [hz.1, hz.2.1, zeroEF_get]; exact ⟨rfl, rfl⟩

theorem Solved.smooth {l : Lvl K} (h : Solved l) (hinj : AllInj l.g l.m) (nu clr : ℕ) :
    ({ l with e := (smoothingC l.g l.m l.s l.e nu clr).1 } : Lvl K) = l := by
  rw [smoothingC_fixed l.g l.m l.s l.e nu clr hinj h.1]

theorem Solved.coarse {g0 : Grid K} {m0 : VM K} {l : Lvl K} (h : Solved l)
    (hr : Reach g0 m0 l.g l.m) (csc : ℕ) : ZeroL g0 m0 (coarseLvl csc l) := by
  refine ⟨?_, rfl, Reach.step csc hr⟩
  simp only [coarseLvl, residual_of_solved l h, restrict_zero, matEF_eq]

theorem ZeroL.prolong {g0 : Grid K} {m0 : VM K} {c : Lvl K} (hc : ZeroL g0 m0 c) (l : Lvl K)
    (csc : ℕ) : ({ l with e := matEF l.g (prolong csc l.g l.e c.e) } : Lvl K) = l := by
  rw [hc.2.1, prolong_zero, matEF_eq]

/-- the stack: zero levels above the unchanged fine level -/
def Inv (l0 : Lvl K) (st : List (Lvl K) × Bool) : Prop :=
  ∃ zs, st.1 = zs ++ [l0] ∧ ∀ z ∈ zs, ZeroL l0.g l0.m z

theorem step_inv (l0 : Lvl K) (hS : Solved l0)
    (hInj : ∀ g m, Reach l0.g l0.m g m → AllInj g m) (st : List (Lvl K) × Bool) (ev : Ev)
    (h : Inv l0 st) : Inv l0 (step st ev) := by
  obtain ⟨stack, ok⟩ := st
  obtain ⟨zs, hst, hz⟩ := h
  simp only at hst
  subst hst
  cases ev with
  | enter a b c => cases zs <;> exact ⟨_, rfl, hz⟩
  | cycleEnd a b c => cases zs <;> exact ⟨_, rfl, hz⟩
  | smooth lev sh nu clr =>
    cases zs with
    | nil =>
      refine ⟨[], ?_, hz⟩
      simp only [List.nil_append, step, hS.smooth (hInj _ _ Reach.base)]
    | cons z zs =>
      have hzz := hz z List.mem_cons_self
      refine ⟨z :: zs, ?_, hz⟩
      simp only [List.cons_append, step, (zeroL_solved hzz).smooth (hInj _ _ hzz.2.2)]
  | restrict lev sh csc cs =>
    cases zs with
    | nil =>
      exact ⟨[coarseLvl csc l0], rfl, List.forall_mem_singleton.2 (hS.coarse Reach.base csc)⟩
    | cons z zs =>
      have hzz := hz z List.mem_cons_self
      exact ⟨coarseLvl csc z :: z :: zs, rfl,
        List.forall_mem_cons.2 ⟨(zeroL_solved hzz).coarse hzz.2.2 csc, hz⟩⟩
  | prolong lev sh csc =>
    cases zs with
    | nil => exact ⟨[], rfl, hz⟩
    | cons c zs =>
      have hc := hz c List.mem_cons_self
      cases zs with
      | nil =>
        refine ⟨[], ?_, fun z hzm => by cases hzm⟩
        simp only [List.cons_append, List.nil_append, step, hc.prolong]
      | cons z zs =>
        refine ⟨z :: zs, ?_, fun y hy => hz y (List.mem_cons_of_mem _ hy)⟩
        simp only [List.cons_append, step, hc.prolong]

/-- every property of states that each event preserves holds after every event list -/
theorem runTrace_preserves (P : List (Lvl K) × Bool → Prop)
    (h : ∀ st ev, P st → P (step st ev)) (evs : List Ev) : ∀ st, P st → P (runTrace st evs) := by
  induction evs with
  | nil => exact fun _ hst => hst
  | cons ev evs ih => exact fun st hst => ih _ (h st ev hst)

/-- **Every event list leaves an exactly solved fine level unchanged** (and every coarse-grid
problem it creates is the zero problem with the zero solution). -/
theorem runTrace_fixed (l0 : Lvl K) (hS : Solved l0)
    (hInj : ∀ g m, Reach l0.g l0.m g m → AllInj g m) (evs : List Ev) :
    ∀ st, Inv l0 st → Inv l0 (runTrace st evs) :=
  runTrace_preserves _ (step_inv l0 hS hInj) evs

/-- **One complete `multigrid` call** — any cycle type, smoothing counts, semicoarsening and
line-relaxation patterns, number of cycles — **returns an exact solution unchanged.** -/
theorem mgRun_fixed (r : Run) (l0 : Lvl K) (hS : Solved l0)
    (hInj : ∀ g m, Reach l0.g l0.m g m → AllInj g m) :
    ∃ zs, (mgRun r l0).1 = zs ++ [l0] ∧ ∀ z ∈ zs, z.e = zeroEF :=
  let ⟨zs, h1, h2⟩ := runTrace_fixed l0 hS hInj (mgTrace r) ([l0], true) ⟨[], rfl, fun _ h => by cases h⟩
  ⟨zs, h1, fun z hz => (h2 z hz).2.1⟩

/-! ## the trace of a `multigrid` call is balanced: the stack returns to the fine level -/

theorem runTrace_append (st : List (Lvl K) × Bool) (a b : List Ev) :
    runTrace st (a ++ b) = runTrace (runTrace st a) b := by
  simp only [runTrace, List.foldl_append]

/-- an event list that leaves the depth of every non-empty stack unchanged -/
def LenPres (K : Type) [Field K] [DecidableEq K] (evs : List Ev) : Prop :=
  ∀ st : List (Lvl K) × Bool, 1 ≤ st.1.length → (runTrace st evs).1.length = st.1.length

theorem lenPres_nil : LenPres K [] := fun _ _ => rfl

theorem lenPres_append {a b : List Ev} (ha : LenPres K a) (hb : LenPres K b) :
    LenPres K (a ++ b) := by
  intro st h
  rw [runTrace_append, hb _ (by rw [ha st h]; exact h), ha st h]

theorem lenPres_smooth (l : ℕ) (s : Shape) (nu clr : ℕ) : LenPres K [Ev.smooth l s nu clr] :=
  fun ⟨stack, _⟩ _ => by cases stack <;> rfl

theorem lenPres_enter (l n : ℕ) (s : Shape) : LenPres K [Ev.enter l n s] :=
  fun ⟨stack, _⟩ _ => by cases stack <;> rfl

theorem lenPres_cycleEnd (a b c : ℕ) : LenPres K [Ev.cycleEnd a b c] :=
  fun ⟨stack, _⟩ _ => by cases stack <;> rfl

/-- restriction, a balanced list, prolongation: balanced -/
theorem lenPres_bracket {B : List Ev} (hB : LenPres K B) (l1 : ℕ) (s1 : Shape) (c1 : ℕ)
    (cs : Shape) (l2 : ℕ) (s2 : Shape) (c2 : ℕ) :
    LenPres K ([Ev.restrict l1 s1 c1 cs] ++ B ++ [Ev.prolong l2 s2 c2]) := by
  intro st h
  obtain ⟨_ | ⟨l, ls⟩, ok⟩ := st
  · simp at h
  · rw [runTrace_append, runTrace_append]
    -- the restriction pushes a level; `B` keeps the depth `≥ 2`; the prolongation pops one
    have h2 := hB (coarseLvl c1 l :: l :: ls, ok) (by simp)
    change (runTrace (runTrace (coarseLvl c1 l :: l :: ls, ok) B) _).1.length = _
    generalize runTrace (coarseLvl c1 l :: l :: ls, ok) B = st2 at h2 ⊢
    obtain ⟨_ | ⟨c, _ | ⟨a, rest⟩⟩, ok2⟩ := st2
    · simp at h2
    · simp at h2
    · simp only [runTrace, List.foldl_cons, List.foldl_nil, step, List.length_cons] at h2 ⊢
      omega

theorem lenPres_flatMap {α : Type} (xs : List α) (f : α → List Ev) (h : ∀ x, LenPres K (f x)) :
    LenPres K (xs.flatMap f) := by
  induction xs with
  | nil => exact lenPres_nil
  | cons x xs ih => rw [List.flatMap_cons]; exact lenPres_append (h x) ih

theorem lenPres_pre (cfg : Cfg) (level : ℕ) (s : Shape) (lr : ℕ) : LenPres K (pre cfg level s lr) := by
  unfold pre; split
  · exact lenPres_smooth _ _ _ _
  · exact lenPres_nil

theorem lenPres_post (cfg : Cfg) (level : ℕ) (s : Shape) (lr : ℕ) : LenPres K (post cfg level s lr) := by
  unfold post; split
  · exact lenPres_smooth _ _ _ _
  · exact lenPres_nil

/-- one visit of a level above the coarsest: pre-smoothing, restriction, a balanced list on the
coarser levels, prolongation, post-smoothing -/
theorem lenPres_visit (cfg : Cfg) (level : ℕ) (s : Shape) (lr csc : ℕ) (cs : Shape)
    {B : List Ev} (hB : LenPres K B) :
    LenPres K (pre cfg level s lr ++ [Ev.restrict level s csc cs] ++ B ++
      [Ev.prolong level s csc] ++ post cfg level s lr) := by
  have := lenPres_append (lenPres_append (lenPres_pre (K := K) cfg level s lr)
    (lenPres_bracket hB level s csc cs level s csc)) (lenPres_post (K := K) cfg level s lr)
  simpa only [List.append_assoc] using this

theorem lenPres_passes (cfg : Cfg) (sc lr : ℕ) : ∀ (fuel level nc : ℕ) (s : Shape),
    LenPres K (passes cfg sc lr fuel level nc s) := by
  intro fuel
  induction fuel with
  | zero =>
    intro level nc s
    exact lenPres_append (a := [Ev.enter level nc s]) (lenPres_enter _ _ _) (lenPres_smooth _ _ _ _)
  | succ fuel ih =>
    intro level nc s
    refine lenPres_append (a := [Ev.enter level nc s]) (lenPres_enter _ _ _) ?_
    exact lenPres_flatMap _ _ fun it => lenPres_visit cfg level s lr _ _ (ih _ _ _)

theorem lenPres_fineIter (cfg : Cfg) (D sc lr cm : ℕ) (s : Shape) :
    LenPres K (fineIter cfg D sc lr cm s) := by
  cases D with
  | zero => exact lenPres_smooth _ _ _ _
  | succ D' => exact lenPres_visit cfg 0 s lr _ _ (lenPres_passes cfg sc lr D' 1 cm _)

theorem lenPres_fineLoop (r : Run) : ∀ n k it cm, LenPres K (fineLoop r n k it cm) := by
  intro n
  induction n with
  | zero => intro k it cm; exact lenPres_nil
  | succ n ih =>
    intro k it cm
    simp only [fineLoop]
    exact lenPres_append (lenPres_append (lenPres_fineIter _ _ _ _ _ _) (lenPres_cycleEnd _ _ _))
      (ih _ _ _)

theorem lenPres_mgTrace (r : Run) : LenPres K (mgTrace r) := by
  simp only [mgTrace]
  refine lenPres_append (lenPres_append (lenPres_enter _ _ _) ?_) (lenPres_fineLoop r _ _ _ _)
  split
  · exact lenPres_smooth _ _ _ _
  · exact lenPres_nil

/-- a complete call ends at the depth it started from: one level -/
theorem mgRun_eq_singleton (r : Run) (l0 : Lvl K) {zs : List (Lvl K)} {b : Lvl K}
    (h : (mgRun r l0).1 = zs ++ [b]) : (mgRun r l0).1 = [b] := by
  have hlen := lenPres_mgTrace (K := K) r ([l0], true) (Nat.le_refl 1)
  unfold mgRun at h ⊢
  rw [h] at hlen ⊢
  cases zs with
  | nil => rfl
  | cons z zs => simp at hlen

/-- **One complete `multigrid` call returns exactly the fine level it was given, with the
field unchanged, if that field solves the system** (the stack is back at depth one). -/
theorem mgRun_fixed_exact (r : Run) (l0 : Lvl K) (hS : Solved l0)
    (hInj : ∀ g m, Reach l0.g l0.m g m → AllInj g m) : (mgRun r l0).1 = [l0] := by
  obtain ⟨zs, h1, _⟩ := mgRun_fixed r l0 hS hInj
  exact mgRun_eq_singleton r l0 h1

/-! ## non-vacuity: a non-trivial exactly solved level (2×2×2 cells, triaxial coefficients) -/

namespace Ex
def g0 : Grid ℚ := ⟨2, 2, 2, fun _ => 1, fun _ => 1, fun _ => 1⟩
def m0 : VM ℚ := ⟨fun _ _ _ => -1, fun _ _ _ => -2, fun _ _ _ => -3, fun _ _ _ => 1⟩
def e0 : EF ℚ := ⟨fun i j k => if i = 0 ∧ j = 1 ∧ k = 1 then 1 else 0, fun _ _ _ => 0,
  fun i j k => if i = 1 ∧ j = 1 ∧ k = 0 then 2 else 0⟩
/-- `A e0` on the six interior edges (computed with the executable model), zero elsewhere -/
def s0 : EF ℚ :=
  ⟨fun i j k => if i = 0 ∧ j = 1 ∧ k = 1 then 3 else if i = 1 ∧ j = 1 ∧ k = 1 then 2 else 0,
   fun i j k => if i = 1 ∧ j = 0 ∧ k = 1 then -3 else if i = 1 ∧ j = 1 ∧ k = 1 then 3 else 0,
   fun i j k => if i = 1 ∧ j = 1 ∧ k = 0 then 13 else if i = 1 ∧ j = 1 ∧ k = 1 then 1 else 0⟩

/-- the interior edges of the 2×2×2 grid -/
theorem interior_222 (d : Edge) (hd : Interior 2 2 2 d) :
    d ∈ ([⟨.x, 0, 1, 1⟩, ⟨.x, 1, 1, 1⟩, ⟨.y, 1, 0, 1⟩, ⟨.y, 1, 1, 1⟩, ⟨.z, 1, 1, 0⟩,
      ⟨.z, 1, 1, 1⟩] : List Edge) := by
  obtain ⟨c, i, j, k⟩ := d
  cases c <;> simp only [Interior] at hd <;>
    simp only [List.mem_cons, Edge.mk.injEq, List.mem_nil_iff, or_false, reduceCtorEq,
      false_and, true_and, false_or] <;> omega

example : Solved (⟨g0, m0, s0, e0⟩ : Lvl ℚ) := by
  constructor
  · intro d hd
    -- the executable model, evaluated on the six interior edges
    have h6 : ∀ q ∈ ([⟨.x, 0, 1, 1⟩, ⟨.x, 1, 1, 1⟩, ⟨.y, 1, 0, 1⟩, ⟨.y, 1, 1, 1⟩, ⟨.z, 1, 1, 0⟩,
        ⟨.z, 1, 1, 1⟩] : List Edge), amatAt g0 m0 e0 q = s0.get q := by decide +kernel
    exact h6 d (interior_222 d hd)
  · intro d hd
    obtain ⟨c, i, j, k⟩ := d
    cases c <;> simp only [Interior, g0] at hd <;> simp only [EF.get, s0, e0] <;>
      constructor <;> (repeat' split) <;> first | rfl | trivial | (exfalso; omega)
end Ex

end Emg
