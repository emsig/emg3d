import Emg3dVerif.Props.C06
import Emg3dVerif.Props.SmoothEnergy
set_option linter.unusedSectionVars false
/-!
# Laplace domain: a sweep strictly reduces the energy norm of every non-zero error (C06, part)

`SmoothEnergy.lean` shows that no block relaxation increases the energy norm of the error.
Here: for strictly dissipative Laplace-domain models (`η < 0` in every cell) the energy form is
positive *definite* on PEC fields (`energy_eq_zero`), and a list of solved block relaxations
that covers all interior edges — one point-wise sweep, one sweep of any line kernel, hence
every call of `solver.smoothing` with at least one sweep — leaves the energy norm unchanged
**only if the error is already zero** (`relaxAll_energy_lt`, `kernel_energy_lt`).  So the
smoother alone is a strictly decreasing iteration on every level: the reason why
`solver.smoothing` can be used "as direct solver" on the coarsest grid.

(The value of the contraction factor is not a statement about the model; see C06.)
-/
namespace Emg
open Finset MGH
variable {K : Type} [Field K] [LinearOrder K] [IsStrictOrderedRing K]

/-- strictly dissipative Laplace-domain models: `ζ ≥ 0`, every `η` of the grid's cells `< 0` -/
structure PhysRS (g : Grid K) (m : VM K) : Prop where
  zeta : ∀ i j k, 0 ≤ m.zeta i j k
  etaX : ∀ i j k, i < g.nx → j < g.ny → k < g.nz → m.etaX i j k < 0
  etaY : ∀ i j k, i < g.nx → j < g.ny → k < g.nz → m.etaY i j k < 0
  etaZ : ∀ i j k, i < g.nx → j < g.ny → k < g.nz → m.etaZ i j k < 0

theorem PhysRS.toPhysR {g : Grid K} {m : VM K} (h : PhysRS g m) : PhysR g m :=
  ⟨h.zeta, fun i j k a b c => (h.etaX i j k a b c).le, fun i j k a b c => (h.etaY i j k a b c).le,
   fun i j k a b c => (h.etaZ i j k a b c).le⟩

section
variable {g : Grid K} {m : VM K}

/-- the edge averages of `η` are negative on interior edges -/
theorem PhysRS.me_neg (h : PhysRS g m) (q : Edge) (hq : Interior g.nx g.ny g.nz q) :
    meAt m q < 0 := by
  have hadd : ∀ x y : K, x < 0 → y < 0 → x + y < 0 := fun _ _ hx hy => add_neg hx hy
  have hdiv : ∀ x : K, x < 0 → x / 4 < 0 := fun _ hx => div_neg_of_neg_of_pos hx (by norm_num)
  exact meAt_closed (fun z => z < 0) hadd hdiv h.etaX h.etaY h.etaZ q hq

/-- **positive definiteness**: a PEC field of energy `≤ 0` vanishes on every interior edge -/
theorem energy_eq_zero (h : PhysRS g m) (u : EF K) (hu : PEC g u) (hE : energy g m u ≤ 0) :
    ∀ q, Interior g.nx g.ny g.nz q → u.get q = 0 := by
  rw [energy_eq u hu] at hE
  have hface := face_nonneg h.toPhysR u
  -- no term of the mass sum is positive and the sum is `≥ 0`: every term vanishes
  have hz := edgeSum_terms_zero g _ (mass_term_nonpos h.toPhysR u hu)
    (by rw [← massDot_eq]; linarith)
  intro q hq
  have := hz q (interior_inBox hq)
  rw [mul_assoc] at this
  rcases mul_eq_zero.1 this with h0 | h0
  · exact absurd h0 (h.me_neg q hq).ne
  · exact mul_self_eq_zero.1 h0

/-- a PEC field whose image under the operator vanishes on all interior edges has energy 0 -/
theorem energy_of_homogeneous (u : EF K) (hu : PEC g u)
    (hA : ∀ q, Interior g.nx g.ny g.nz q → amatAt g m u q = 0) : energy g m u = 0 := by
  refine edgeDot_zero_of_pointwise _ _ fun q hb => ?_
  by_cases hq : Interior g.nx g.ny g.nz q
  · show amatAt g m u q * _ = 0
    rw [hA q hq, zero_mul]
  · rw [hu.get_zero hb hq, mul_zero]

end

/-! ## a list of solved blocks that does not reduce the energy changes nothing -/
section
variable (g : Grid K) (m : VM K)

/-- one solved block: if the energy norm of the error did not decrease, the field is unchanged
(and therefore already satisfied the block's equations) -/
theorem relaxBlock_stationary (h : PhysRS g m) (s e estar : EF K) (B : List Edge)
    (hB : ∀ q ∈ B, Interior g.nx g.ny g.nz q) (he : PEC g e) (hs : PEC g estar)
    (hsol : ∀ q, Interior g.nx g.ny g.nz q → amatAt g m estar q = s.get q)
    (hok : (relaxBlock g m s e B).2 = true)
    (hE : energy g m (e.sub estar) ≤ energy g m ((relaxBlock g m s e B).1.sub estar)) :
    (relaxBlock g m s e B).1 = e ∧ ∀ r ∈ B, amatAt g m e r = s.get r := by
  have hpe' := relaxBlock_pec g m s e B hB he
  have hsplit := relaxBlock_energy g m s e estar B hB he hs hsol hok
  have hc : energy g m (e.sub (relaxBlock g m s e B).1) ≤ 0 := by linarith
  have hz := energy_eq_zero h _ (PEC.sub he hpe') hc
  have heq : (relaxBlock g m s e B).1 = e := by
    apply EF.ext_get
    intro q
    by_cases hq : q ∈ B
    · have := hz q (hB q hq)
      rw [EF.get_sub] at this
      exact (sub_eq_zero.1 this).symm
    · exact relaxBlock_frame g m s e B q hq
  refine ⟨heq, fun r hr => ?_⟩
  have := relaxBlock_solves g m s e B hok r hr
  rwa [heq] at this

theorem relaxAll_stationary (h : PhysRS g m) (s estar : EF K) (hs : PEC g estar)
    (hsol : ∀ q, Interior g.nx g.ny g.nz q → amatAt g m estar q = s.get q)
    (Bs : List (List Edge)) (hBs : ∀ B ∈ Bs, ∀ q ∈ B, Interior g.nx g.ny g.nz q) :
    ∀ st : EF K × Bool, PEC g st.1 → (relaxAll g m s st Bs).2 = true →
      energy g m (st.1.sub estar) ≤ energy g m ((relaxAll g m s st Bs).1.sub estar) →
      ∀ B ∈ Bs, ∀ r ∈ B, amatAt g m st.1 r = s.get r := by
  induction Bs with
  | nil => intro st _ _ _ B hB; cases hB
  | cons B Bs ih =>
    intro st hst hok hE
    obtain ⟨e, ok⟩ := st
    simp only [relaxAll] at hok hE
    have hBint := hBs B List.mem_cons_self
    have hBsint : ∀ C ∈ Bs, ∀ q ∈ C, Interior g.nx g.ny g.nz q :=
      fun C hC => hBs C (List.mem_cons_of_mem _ hC)
    have h1 := relaxBlock_energy_le g m h.toPhysR s e estar B hBint hst hs hsol
    have hmid := relaxAll_energy_le g m h.toPhysR s estar hs hsol Bs hBsint
      ((relaxBlock g m s e B).1, ok && (relaxBlock g m s e B).2) h1.2
    have hflag := relaxAll_flag g m s Bs _ hok
    simp only [Bool.and_eq_true] at hflag
    have hstat := relaxBlock_stationary g m h s e estar B hBint hst hs hsol hflag.2
      (le_trans hE hmid)
    have hrest := ih hBsint ((relaxBlock g m s e B).1, ok && (relaxBlock g m s e B).2) h1.2 hok
      (le_trans (le_of_eq (by rw [hstat.1])) hE)
    intro C hC r hr
    rcases List.mem_cons.mp hC with rfl | hC
    · exact hstat.2 r hr
    · have := hrest C hC r hr
      simp only [hstat.1] at this
      exact this

/-- **a list of solved block relaxations that covers the interior strictly reduces the energy
norm of every non-zero error** -/
theorem relaxAll_energy_lt (h : PhysRS g m) (s estar : EF K) (hs : PEC g estar)
    (hsol : ∀ q, Interior g.nx g.ny g.nz q → amatAt g m estar q = s.get q)
    (Bs : List (List Edge)) (hBs : ∀ B ∈ Bs, ∀ q ∈ B, Interior g.nx g.ny g.nz q)
    (hcov : ∀ q, Interior g.nx g.ny g.nz q → ∃ B ∈ Bs, q ∈ B)
    (st : EF K × Bool) (hst : PEC g st.1) (hok : (relaxAll g m s st Bs).2 = true)
    (hne : ∃ q, Interior g.nx g.ny g.nz q ∧ st.1.get q ≠ estar.get q) :
    energy g m ((relaxAll g m s st Bs).1.sub estar) < energy g m (st.1.sub estar) := by
  by_contra hlt
  have hE := not_lt.1 hlt
  have heqs := relaxAll_stationary g m h s estar hs hsol Bs hBs st hst hok hE
  have hd : ∀ q, Interior g.nx g.ny g.nz q → amatAt g m (st.1.sub estar) q = 0 := by
    intro q hq
    obtain ⟨B, hB, hqB⟩ := hcov q hq
    rw [amatAt_sub, heqs B hB q hqB, hsol q hq, sub_self]
  have hzero := energy_eq_zero h _ (PEC.sub hst hs)
    (le_of_eq (energy_of_homogeneous _ (PEC.sub hst hs) hd))
  obtain ⟨q, hq, hne⟩ := hne
  have := hzero q hq
  rw [EF.get_sub] at this
  exact hne (sub_eq_zero.1 this)

end

/-! ## one sweep of every kernel covers the interior -/

theorem idxSeq_mem (back : Bool) (n i : ℕ) (h1 : 1 ≤ i) (h2 : i < n) : i ∈ idxSeq back n := by
  simp only [idxSeq, List.mem_map, List.mem_range]
  cases back
  · exact ⟨i - 1, by omega, by rw [if_neg Bool.false_ne_true]; omega⟩
  · exact ⟨n - 1 - i, by omega, by rw [if_pos rfl]; omega⟩

/-- every interior edge is one of the six edges at an interior node: its far end node if that
is interior, else its near end node -/
theorem interior_mem_nodeBlock (nx ny nz : ℕ) (hx : 2 ≤ nx) (hy : 2 ≤ ny) (hz : 2 ≤ nz)
    (q : Edge) (hq : Interior nx ny nz q) :
    ∃ ix iy iz, (1 ≤ ix ∧ ix < nx) ∧ (1 ≤ iy ∧ iy < ny) ∧ (1 ≤ iz ∧ iz < nz) ∧
      q ∈ nodeBlock ix iy iz := by
  obtain ⟨c, i, j, k⟩ := q
  cases c <;> simp only [Interior] at hq
  · by_cases hi : i + 1 < nx
    · exact ⟨i + 1, j, k, by omega, by omega, by omega, .head _⟩
    · exact ⟨i, j, k, by omega, by omega, by omega, .tail _ (.head _)⟩
  · by_cases hj : j + 1 < ny
    · exact ⟨i, j + 1, k, by omega, by omega, by omega, .tail _ (.tail _ (.head _))⟩
    · exact ⟨i, j, k, by omega, by omega, by omega, .tail _ (.tail _ (.tail _ (.head _)))⟩
  · by_cases hk : k + 1 < nz
    · exact ⟨i, j, k + 1, by omega, by omega, by omega,
        .tail _ (.tail _ (.tail _ (.tail _ (.head _))))⟩
    · exact ⟨i, j, k, by omega, by omega, by omega,
        .tail _ (.tail _ (.tail _ (.tail _ (.tail _ (.head _)))))⟩

/-- a line block contains the node blocks of the nodes of its line -/
theorem nodeBlock_subset_lineX (nx ix iy iz : ℕ) (h1 : 1 ≤ ix) (h2 : ix < nx) :
    ∀ q ∈ nodeBlock ix iy iz, q ∈ lineBlockX nx iy iz := by
  obtain ⟨ix, rfl⟩ : ∃ i', ix = i' + 1 := ⟨ix - 1, by omega⟩
  intro q hq
  simp only [nodeBlock, Nat.add_sub_cancel, List.mem_cons, List.mem_nil_iff, or_false] at hq
  simp only [lineBlockX, List.mem_flatMap, List.mem_range]
  rcases hq with rfl | rfl | rfl | rfl | rfl | rfl
  · exact ⟨ix, by omega, .head _⟩
  · exact ⟨ix + 1, h2, .head _⟩
  · exact ⟨ix, by omega, by rw [if_pos h2]; exact .tail _ (.head _)⟩
  · exact ⟨ix, by omega, by rw [if_pos h2]; exact .tail _ (.tail _ (.head _))⟩
  · exact ⟨ix, by omega, by rw [if_pos h2]; exact .tail _ (.tail _ (.tail _ (.head _)))⟩
  · exact ⟨ix, by omega, by rw [if_pos h2]; exact .tail _ (.tail _ (.tail _ (.tail _ (.head _))))⟩

theorem nodeBlock_subset_lineY (ny ix iy iz : ℕ) (h1 : 1 ≤ iy) (h2 : iy < ny) :
    ∀ q ∈ nodeBlock ix iy iz, q ∈ lineBlockY ny ix iz := by
  obtain ⟨iy, rfl⟩ : ∃ i', iy = i' + 1 := ⟨iy - 1, by omega⟩
  intro q hq
  simp only [nodeBlock, Nat.add_sub_cancel, List.mem_cons, List.mem_nil_iff, or_false] at hq
  simp only [lineBlockY, List.mem_flatMap, List.mem_range]
  rcases hq with rfl | rfl | rfl | rfl | rfl | rfl
  · exact ⟨iy, by omega, by rw [if_pos h2]; exact .tail _ (.head _)⟩
  · exact ⟨iy, by omega, by rw [if_pos h2]; exact .tail _ (.tail _ (.head _))⟩
  · exact ⟨iy, by omega, .head _⟩
  · exact ⟨iy + 1, h2, .head _⟩
  · exact ⟨iy, by omega, by rw [if_pos h2]; exact .tail _ (.tail _ (.tail _ (.head _)))⟩
  · exact ⟨iy, by omega, by rw [if_pos h2]; exact .tail _ (.tail _ (.tail _ (.tail _ (.head _))))⟩

theorem nodeBlock_subset_lineZ (nz ix iy iz : ℕ) (h1 : 1 ≤ iz) (h2 : iz < nz) :
    ∀ q ∈ nodeBlock ix iy iz, q ∈ lineBlockZ nz ix iy := by
  obtain ⟨iz, rfl⟩ : ∃ i', iz = i' + 1 := ⟨iz - 1, by omega⟩
  intro q hq
  simp only [nodeBlock, Nat.add_sub_cancel, List.mem_cons, List.mem_nil_iff, or_false] at hq
  simp only [lineBlockZ, List.mem_flatMap, List.mem_range]
  rcases hq with rfl | rfl | rfl | rfl | rfl | rfl
  · exact ⟨iz, by omega, by rw [if_pos h2]; exact .tail _ (.head _)⟩
  · exact ⟨iz, by omega, by rw [if_pos h2]; exact .tail _ (.tail _ (.head _))⟩
  · exact ⟨iz, by omega, by rw [if_pos h2]; exact .tail _ (.tail _ (.tail _ (.head _)))⟩
  · exact ⟨iz, by omega, by rw [if_pos h2]; exact .tail _ (.tail _ (.tail _ (.tail _ (.head _))))⟩
  · exact ⟨iz, by omega, .head _⟩
  · exact ⟨iz + 1, h2, .head _⟩

/-- one sweep of any kernel, in either direction, covers the interior: by the block of the
node found by `interior_mem_nodeBlock` (point-wise kernel) or of the line through it -/
theorem sweepBlocks_cover (kernel nx ny nz : ℕ) (hk : kernel ≤ 3) (hx : 2 ≤ nx) (hy : 2 ≤ ny)
    (hz : 2 ≤ nz) (back : Bool) (q : Edge) (hq : Interior nx ny nz q) :
    ∃ B ∈ sweepBlocks kernel nx ny nz back, q ∈ B := by
  obtain ⟨ix, iy, iz, hx, hy, hz, hm⟩ := interior_mem_nodeBlock nx ny nz hx hy hz q hq
  have mx := idxSeq_mem back nx ix hx.1 hx.2
  have my := idxSeq_mem back ny iy hy.1 hy.2
  have mz := idxSeq_mem back nz iz hz.1 hz.2
  rcases kernel with _ | _ | _ | _ | k <;>
    simp only [sweepBlocks, List.mem_flatMap, List.mem_map]
  · exact ⟨_, ⟨iz, mz, iy, my, ix, mx, rfl⟩, hm⟩
  · exact ⟨_, ⟨iz, mz, iy, my, rfl⟩, nodeBlock_subset_lineX nx ix iy iz hx.1 hx.2 q hm⟩
  · exact ⟨_, ⟨iz, mz, ix, mx, rfl⟩, nodeBlock_subset_lineY ny ix iy iz hy.1 hy.2 q hm⟩
  · exact ⟨_, ⟨iy, my, ix, mx, rfl⟩, nodeBlock_subset_lineZ nz ix iy iz hz.1 hz.2 q hm⟩
  · omega

/-- the point-wise kernel: every interior edge belongs to the block of one of its end nodes -/
theorem sweep0_cover (nx ny nz : ℕ) (hx : 2 ≤ nx) (hy : 2 ≤ ny) (hz : 2 ≤ nz) (back : Bool)
    (q : Edge) (hq : Interior nx ny nz q) :
    ∃ B ∈ sweepBlocks 0 nx ny nz back, q ∈ B :=
  sweepBlocks_cover 0 nx ny nz (by omega) hx hy hz back q hq

theorem sweep3_cover (nx ny nz : ℕ) (hx : 2 ≤ nx) (hy : 2 ≤ ny) (_hz : 2 ≤ nz) (back : Bool)
    (q : Edge) (hq : Interior nx ny nz q) :
    ∃ B ∈ sweepBlocks 3 nx ny nz back, q ∈ B :=
  sweepBlocks_cover 3 nx ny nz (by omega) hx hy _hz back q hq

/-- one sweep of any of the four kernels covers the interior -/
theorem kernelBlocks_cover (kernel nx ny nz nu : ℕ) (hk : kernel ≤ 3) (hnu : 1 ≤ nu)
    (hx : 2 ≤ nx) (hy : 2 ≤ ny) (hz : 2 ≤ nz) (q : Edge) (hq : Interior nx ny nz q) :
    ∃ B ∈ kernelBlocks kernel nx ny nz nu, q ∈ B := by
  obtain ⟨B, hB, hqB⟩ := sweepBlocks_cover kernel nx ny nz hk hx hy hz ((0+1) % 2 == 1) q hq
  exact ⟨B, List.mem_flatMap.2 ⟨0, List.mem_range.2 (by omega), hB⟩, hqB⟩

/-- **Laplace domain, strictly dissipative model, at least two cells per direction: a call of
any smoothing kernel with at least one sweep, all of whose block systems were solved, strictly
reduces the energy norm of every non-zero error.** -/
theorem kernel_energy_lt {g : Grid K} {m : VM K} (h : PhysRS g m) (s e estar : EF K)
    (kernel nu : ℕ) (hk : kernel ≤ 3) (hnu : 1 ≤ nu)
    (hx : 2 ≤ g.nx) (hy : 2 ≤ g.ny) (hz : 2 ≤ g.nz) (he : PEC g e) (hs : PEC g estar)
    (hsol : ∀ q, Interior g.nx g.ny g.nz q → amatAt g m estar q = s.get q)
    (hok : (runKernel g m s kernel nu (e, true)).2 = true)
    (hne : ∃ q, Interior g.nx g.ny g.nz q ∧ e.get q ≠ estar.get q) :
    energy g m ((runKernel g m s kernel nu (e, true)).1.sub estar) < energy g m (e.sub estar) := by
  unfold runKernel at hok ⊢
  exact relaxAll_energy_lt g m h s estar hs hsol _ (kernelBlocks_interior _ _ _ _ _)
    (kernelBlocks_cover kernel g.nx g.ny g.nz nu hk hnu hx hy hz) (e, true) he hok hne

/-! ## every level of the hierarchy -/

/-- the strictly dissipative class is closed under the coarsening of `solver.restriction` -/
theorem PhysRS.coarse {g : Grid K} {m : VM K} (h : PhysRS g m) (csc : ℕ) :
    PhysRS (coarseGrid csc g) (coarseVM csc g m) := by
  have hadd : ∀ x y : K, x < 0 → y < 0 → x + y < 0 := fun _ _ hx hy => add_neg hx hy
  have hz := (h.toPhysR.coarse csc).zeta
  rw [coarseVM_eq] at hz ⊢
  exact ⟨hz,
    restrictParam_closed (fun z => z < 0) hadd csc g _ h.etaX,
    restrictParam_closed (fun z => z < 0) hadd csc g _ h.etaY,
    restrictParam_closed (fun z => z < 0) hadd csc g _ h.etaZ⟩

theorem PhysRS.reach {g0 : Grid K} {m0 : VM K} (h : PhysRS g0 m0) {g : Grid K} {m : VM K}
    (hr : Reach g0 m0 g m) : PhysRS g m :=
  Reach.closed PhysRS (fun _ _ csc hc => hc.coarse csc) h hr

theorem kernelsOf_le (c k : ℕ) (h : k ∈ kernelsOf c) : k ≤ 3 := by
  rcases (mem_kernelsOf k c).1 h with h | h | h | h <;> omega

/-- `smoothing` calls at least one kernel, whatever code `≤ 7` it is given and whatever it
adapts it to -/
theorem kernelsOf_adapt_ne_nil : ∀ (lr : Fin 8) (bx bY bz : Bool),
    kernelsOf (lrAdapt lr.val bx bY bz) ≠ [] := by decide

/-- **on every level the recursion can reach, a smoothing call of the cycle** (already adapted
code `clr` with at least one kernel, at least one sweep, solved blocks, at least two cells per
direction) **strictly reduces the energy norm of that level's non-zero error** -/
theorem smoothingC_energy_lt_reach {g0 : Grid K} {m0 : VM K} (h : PhysRS g0 m0)
    {g : Grid K} {m : VM K} (hr : Reach g0 m0 g m) (s e estar : EF K) (nu clr : ℕ)
    (hk : ∃ kernel ∈ kernelsOf clr, kernel ≤ 3) (hnu : 1 ≤ nu)
    (hx : 2 ≤ g.nx) (hy : 2 ≤ g.ny) (hz : 2 ≤ g.nz) (he : PEC g e) (hs : PEC g estar)
    (hsol : ∀ q, Interior g.nx g.ny g.nz q → amatAt g m estar q = s.get q)
    (hok : (smoothingC g m s e nu clr).2 = true)
    (hne : ∃ q, Interior g.nx g.ny g.nz q ∧ e.get q ≠ estar.get q) :
    energy g m ((smoothingC g m s e nu clr).1.sub estar) < energy g m (e.sub estar) := by
  obtain ⟨kernel, hkm, hk3⟩ := hk
  refine relaxAll_energy_lt g m (h.reach hr) s estar hs hsol _
    (smoothingC_blocks_interior _ _ _ _ _) (fun q hq => ?_) (e, true) he hok hne
  obtain ⟨B, hB, hqB⟩ := kernelBlocks_cover kernel g.nx g.ny g.nz nu hk3 hnu hx hy hz q hq
  exact ⟨B, List.mem_flatMap.2 ⟨kernel, hkm, hB⟩, hqB⟩

/-- … and so does `solver.smoothing` for every line-relaxation code `≤ 7` -/
theorem smoothing_energy_lt {g : Grid K} {m : VM K} (h : PhysRS g m) (s e estar : EF K)
    (nu lrDir : ℕ) (hlr : lrDir ≤ 7) (hnu : 1 ≤ nu)
    (hx : 2 ≤ g.nx) (hy : 2 ≤ g.ny) (hz : 2 ≤ g.nz) (he : PEC g e) (hs : PEC g estar)
    (hsol : ∀ q, Interior g.nx g.ny g.nz q → amatAt g m estar q = s.get q)
    (hok : (smoothing g m s e nu lrDir).2 = true)
    (hne : ∃ q, Interior g.nx g.ny g.nz q ∧ e.get q ≠ estar.get q) :
    energy g m ((smoothing g m s e nu lrDir).1.sub estar) < energy g m (e.sub estar) := by
  -- `smoothing` calls at least one kernel, and the first one already covers the interior
  obtain ⟨kernel, hkm⟩ := List.exists_mem_of_ne_nil _
    (kernelsOf_adapt_ne_nil ⟨lrDir, by omega⟩ (g.nx == 2) (g.ny == 2) (g.nz == 2))
  exact smoothingC_energy_lt_reach h Reach.base s e estar nu _
    ⟨kernel, hkm, kernelsOf_le _ _ hkm⟩ hnu hx hy hz he hs hsol hok hne

/-- non-vacuity: a strictly dissipative Laplace-domain model on a 2×2×2 grid over ℚ -/
example : PhysRS (K := ℚ) ⟨2, 2, 2, fun _ => 1, fun _ => 1, fun _ => 1⟩
    ⟨fun _ _ _ => -1, fun _ _ _ => -2, fun _ _ _ => -3, fun _ _ _ => 1⟩ := by
  constructor <;> intros <;> norm_num

end Emg
