import Emg3dVerif.Model.Cli
/-!
# C18 — CLI ≡ Python API for every documented option

Theorems about the model `Cli` of the configuration parser.  The quantifiers over the option
tables are decided over the complete finite tables; the statements about unknown keys, unknown
sections and precedence hold for every input.
-/
namespace Cli

/-- **every documented option is accepted by the parser** -/
theorem documented_accepted :
    ∀ d ∈ documented, d.1 ∈ sections ∧ (accepted d.1).any (·.1 = d.2) = true := by
  decide +kernel

/-- **every accepted option reaches a keyword the API knows** (the `[files]` keys are consumed by
the CLI itself) -/
theorem accepted_reaches_api :
    ∀ s ∈ sections, ∀ k ∈ accepted s, reachesApi s k.1 = true := by
  decide +kernel

/-- no key is accepted twice in a section (the typed extraction is unambiguous) -/
theorem accepted_nodup : ∀ s ∈ sections, ((accepted s).map (·.1)).Nodup := by
  decide +kernel

theorem resolve_term (v : String) (c : Option String) (d : String) : resolve (some v) c d = v := rfl
theorem resolve_cfg (v d : String) : resolve none (some v) d = v := rfl
theorem resolve_default (d : String) : resolve none none d = d := rfl

/-- a result `ok` means no section had an unknown key and there was no unknown section -/
theorem parse_ok_clean {i : Input} {o : Out} (h : parse i = .ok o) :
    (∀ s ∈ sections, unknownIn i s = []) ∧ unknownSections i = [] ∧ o = build i := by
  unfold parse problem at h
  cases hf : sections.find? (fun s => unknownIn i s ≠ []) with
  | some s => rw [hf] at h; cases h
  | none =>
    by_cases hu : unknownSections i = []
    · rw [hf, if_neg (not_not_intro hu)] at h
      cases h
      exact ⟨fun s hs => by simpa using List.find?_eq_none.1 hf s hs, hu, rfl⟩
    · rw [hf, if_pos hu] at h; cases h

/-- **unknown options are rejected**: a key that the parser does not know in one of its sections
makes the whole parse fail -/
theorem unknown_key_rejected (i : Input) (s k v : String) (hs : s ∈ sections)
    (hmem : (s, k, v) ∈ i.cfg) (hk : (accepted s).any (·.1 = k) = false) :
    ∀ o, parse i ≠ .ok o := by
  intro o h
  have := (parse_ok_clean h).1 s hs
  have hin : k ∈ unknownIn i s := by
    unfold unknownIn
    simp only [List.mem_map, List.mem_filter]
    exact ⟨(s, k, v), ⟨hmem, by simp [hk]⟩, rfl⟩
  exact List.ne_nil_of_mem hin this

/-- **unknown sections are rejected** -/
theorem unknown_section_rejected (i : Input) (s k v : String) (hs : s ∉ sections)
    (hmem : (s, k, v) ∈ i.cfg) : ∀ o, parse i ≠ .ok o := by
  intro o h
  have := (parse_ok_clean h).2.1
  have hin : s ∈ unknownSections i := by
    unfold unknownSections
    rw [List.mem_eraseDups]
    simp only [List.mem_filter, List.mem_map]
    exact ⟨⟨(s, k, v), hmem, rfl⟩, by simpa using hs⟩
  exact List.ne_nil_of_mem hin this

/-! ## precedence: terminal > configuration file > default -/

/-- **a file name given on the command line wins** over the one in `[files]` -/
theorem terminal_file_overrides (i : Input) (k d v : String) (ht : lookupT i k = some v)
    (hv : v ≠ "") : fileName i k d = complete (absPath i) v := by
  unfold fileName
  simp [ht, resolve, hv]

/-- without a command-line argument the configuration file is used, else the default -/
theorem config_file_used (i : Input) (k d v : String) (ht : lookupT i k = none)
    (hc : lookupC i "files" k = some v) (hv : v ≠ "") :
    fileName i k d = complete (absPath i) v := by
  unfold fileName
  simp [ht, hc, resolve, hv]

theorem default_file_used (i : Input) (k d : String) (ht : lookupT i k = none)
    (hc : lookupC i "files" k = none) (hd : d ≠ "") :
    fileName i k d = complete (absPath i) d := by
  unfold fileName
  simp [ht, hc, resolve, hd]

/-- **`--path` wins** over `path` in `[files]` (and both may be present) -/
theorem terminal_path_overrides (i : Input) (p : String) (ht : lookupT i "path" = some p)
    (hp : p ≠ ".") : absPath i = p := by
  unfold absPath
  simp [ht, resolve, hp]

/-- `build` starts with the file names and the simulation options -/
theorem mem_build (i : Input) {e : String × String} (h : e ∈ filesOut i ++ simOut i) :
    e ∈ (build i).entries := by
  simp only [build, List.mem_append, List.mem_append.1 h, true_or]

/-- **`-n` wins** over `max_workers` in `[simulation]`: it is the (first and only) value of the
key -/
theorem terminal_nproc_overrides (i : Input) (n : String) (ht : lookupT i "nproc" = some n) :
    (build i).entries.find? (·.1 = "simulation_options.max_workers") =
      some ("simulation_options.max_workers", "nproc:" ++ n) := by
  unfold build filesOut simOut
  simp [ht]

/-- **`-l` wins** over `layered` in `[simulation]` -/
theorem terminal_layered_overrides (i : Input) (h : "layered" ∈ i.flags) :
    ("simulation_options.layered", "bool:True") ∈ (build i).entries := by
  exact mem_build i (by simp [simOut, h])

/-- **`cache` is a shortcut for `load` and `save`** (and overrules both) -/
theorem cache_is_load_and_save (i : Input) (h : fileName i "cache" "" ≠ "False") :
    ("files.save", fileName i "cache" "") ∈ (build i).entries ∧
    ("files.load", fileName i "cache" "") ∈ (build i).entries := by
  constructor <;> exact mem_build i (by simp [filesOut, h])

/-- the gradient needs linear receiver interpolation: default if the file does not say otherwise -/
theorem gradient_defaults_linear (i : Input) (hf : function i = "gradient")
    (hc : lookupC i "simulation" "receiver_interpolation" = none) :
    ("simulation_options.receiver_interpolation", "str:linear") ∈ (build i).entries := by
  exact mem_build i (by simp [simOut, hc, hf])

theorem explicit_interpolation_kept (i : Input) (v : String)
    (hc : lookupC i "simulation" "receiver_interpolation" = some v) :
    ("simulation_options.receiver_interpolation", "str:" ++ v) ∈ (build i).entries := by
  exact mem_build i (by simp [simOut, hc])

/-- `[noise_opts]` overrides the deprecated noise keys of `[simulation]` -/
theorem noise_opts_override (i : Input) (k v : String)
    (hk : k ∈ ["min_offset", "max_offset", "mean_noise", "ntype", "add_noise"])
    (hc : lookupC i "noise_opts" k = some v) :
    ("noise_kwargs." ++ k, typed "noise_opts" k v) ∈ noiseOut i := by
  exact List.mem_filterMap.2 ⟨k, hk, by simp [hc]⟩

/-- the function is forward unless `-m` or `-g` is given -/
theorem function_cases (i : Input) :
    function i = "forward" ∨ function i = "misfit" ∨ function i = "gradient" := by
  unfold function
  split
  · right; right; rfl
  · split
    · right; left; rfl
    · left; rfl

/-- non-vacuity: a configuration with documented keys only parses; an unknown key is rejected -/
def exampleOk : Input where
  term := [("nproc", "2")]
  flags := ["gradient"]
  verbosity := 1
  cfg := [("files", "path", "/data"), ("solver_opts", "tol", "1e-4"),
          ("gridding_opts", "cell_number", "8, 16")]
  cwd := "/home"

def exampleBad : Input where
  term := []
  flags := []
  verbosity := 0
  cfg := [("solver_opts", "tolerance", "1e-4")]
  cwd := "/"

example : (match parse exampleOk with | .ok _ => true | _ => false) = true := by decide +kernel
example : (match parse exampleBad with
    | .unexpected "solver_opts" ["tolerance"] => true | _ => false) = true := by decide +kernel

end Cli
