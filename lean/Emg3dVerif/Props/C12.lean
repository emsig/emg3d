import Emg3dVerif.Model.SimState
/-!
# C12 — simulation results are a function of (model, survey), not of the call history

`SimM.step` models the caches of `emg3d.simulations.Simulation` (tied to the code by the
operation-sequence correspondence of `harness/c12.py`, where every real value is identified
bit for bit with the value a *fresh* simulation of some model version reports).  The theorems
say: after any history of public operations every stored or returned quantity belongs to the
*current* model version — i.e. equals what a fresh simulation reports.
-/
namespace SimM

def AllV (l : List (Option Ver)) (v : Ver) : Prop := ∀ x ∈ l, x = some v
def AllVN (l : List (Option Ver)) (v : Ver) : Prop := ∀ x ∈ l, x = none ∨ x = some v

/-- coherence of the caches with the current model; `tag` is the vector currently stored in
`data.residual` (`none` = the data residual itself) -/
structure CoherentW (tag : Option Nat) (s : Sim) : Prop where
  ef : AllVN s.efield s.ver
  syn : AllVN s.syn s.ver
  comp : s.computed = true → AllV s.syn s.ver
  mis : ∀ m, s.misfit = some m → AllV m s.ver ∧ s.computed = true
  grad : ∀ e sy w, s.grad = some (e, sy, w) → AllV e s.ver ∧ AllV sy s.ver ∧ w = tag
  res : ∀ sy w, s.residual = some (sy, w) → AllV sy s.ver ∧ w = tag
  resMis : s.misfit.isSome = true → s.residual.isSome = true

abbrev Coherent (s : Sim) : Prop := CoherentW none s

/-- a returned value belongs to model version `v` -/
def RetOk (v : Ver) : Ret → Prop
  | .none => True
  | .misfit m => AllV m v
  | .gradient e sy _ => AllV e v ∧ AllV sy v
  | .jvec e => AllV e v
  | .field x => x = some v ∨ True

theorem AllVN_replicate (n : Nat) (v : Ver) : AllVN (List.replicate n none) v := by
  intro x hx; left; exact (List.mem_replicate.1 hx).2

theorem AllV_of_AllVN_noNone (l : List (Option Ver)) (v : Ver) (h : AllVN l v)
    (hn : l.any (·.isNone) = false) : AllV l v := by
  intro x hx
  rcases h x hx with h1 | h1
  · exfalso
    have : l.any (·.isNone) = true := List.any_eq_true.2 ⟨x, hx, by simp [h1]⟩
    rw [hn] at this; cases this
  · exact h1

theorem AllV.toN {l : List (Option Ver)} {v : Ver} (h : AllV l v) : AllVN l v :=
  fun x hx => Or.inr (h x hx)

theorem fill_AllV (l : List (Option Ver)) (v : Ver) (h : AllVN l v) :
    AllV (l.map fun e => match e with | some w => some w | none => some v) v := by
  intro x hx
  obtain ⟨y, hy, rfl⟩ := List.mem_map.1 hx
  rcases h y hy with h1 | h1 <;> simp [h1]

/-- serves `AllV` and `AllVN` alike, both being `∀ x ∈ l, _` -/
theorem forall_mem_set {α : Type} {P : α → Prop} {l : List α} {a : α} (h : ∀ x ∈ l, P x)
    (ha : P a) (p : Nat) : ∀ x ∈ l.set p a, P x :=
  fun x hx => (List.mem_or_eq_of_mem_set hx).elim (h x) (· ▸ ha)

/-- a state without results is coherent with any model (`fresh`, `clean`, a new model) -/
theorem CoherentW.cleared {tag : Option Nat} {s : Sim} (hef : AllVN s.efield s.ver)
    (hsyn : AllVN s.syn s.ver) (hc : s.computed = false) (hm : s.misfit = none)
    (hg : s.grad = none) (hr : s.residual = none) : CoherentW tag s where
  ef := hef
  syn := hsyn
  comp := fun h => by rw [hc] at h; cases h
  mis := fun m h => by rw [hm] at h; cases h
  grad := fun e sy w h => by rw [hg] at h; cases h
  res := fun sy w h => by rw [hr] at h; cases h
  resMis := fun h => by rw [hm] at h; cases h

theorem Coherent_fresh (np : Nat) (v : Ver) : Coherent (fresh np v) :=
  .cleared (AllVN_replicate _ _) (AllVN_replicate _ _) rfl rfl rfl rfl

theorem doComputeAll_coh (tag : Option Nat) (s : Sim) (h : CoherentW tag s) :
    CoherentW tag (doComputeAll s) ∧ AllV (doComputeAll s).efield s.ver ∧
    AllV (doComputeAll s).syn s.ver ∧ (doComputeAll s).computed = true :=
  have hf := fill_AllV s.efield s.ver h.ef
  ⟨{ h with ef := hf.toN, syn := hf.toN, comp := fun _ => hf,
            mis := fun m hm => ⟨(h.mis m hm).1, rfl⟩ }, hf, hf, rfl⟩

theorem doComputePair_coh (tag : Option Nat) (s : Sim) (p : Nat) (h : CoherentW tag s) :
    (doComputePair s p).ver = s.ver ∧ CoherentW tag (doComputePair s p) := by
  unfold doComputePair
  split
  · exact ⟨rfl, h⟩
  · exact ⟨rfl, { h with ef := forall_mem_set h.ef (Or.inr rfl) p
                         syn := forall_mem_set h.syn (Or.inr rfl) p
                         comp := fun hc => forall_mem_set (h.comp hc) rfl p }⟩

/-! the three cases of `doMisfit` -/

theorem doMisfit_cached (s : Sim) (h : s.misfit.isSome = true) : doMisfit s = s := by
  unfold doMisfit
  cases hm : s.misfit with
  | some m => rfl
  | none => simp [hm] at h

theorem doMisfit_computed (s : Sim) (hm : s.misfit = none) (hc : s.computed = true) :
    doMisfit s = { s with misfit := some s.syn, residual := some (s.syn, none) } := by
  simp only [doMisfit, hm, hc, if_true]

theorem doMisfit_compute (s : Sim) (hm : s.misfit = none) (hc : s.computed = false) :
    doMisfit s = { doComputeAll s with misfit := some (doComputeAll s).syn,
                                       residual := some ((doComputeAll s).syn, none) } := by
  simp only [doMisfit, hm, hc, Bool.false_eq_true, if_false]

theorem CoherentW.setMisfit {s : Sim} (h : Coherent s) (hs : AllV s.syn s.ver)
    (hc : s.computed = true) :
    Coherent { s with misfit := some s.syn, residual := some (s.syn, none) } :=
  { h with mis := fun m hm => by cases hm; exact ⟨hs, hc⟩
           res := fun sy w hr => by cases hr; exact ⟨hs, rfl⟩
           resMis := fun _ => rfl }

theorem doMisfit_coh (s : Sim) (h : Coherent s) :
    Coherent (doMisfit s) ∧ (doMisfit s).ver = s.ver ∧ (doMisfit s).misfit.isSome = true := by
  cases hm : s.misfit with
  | some m =>
    have hs : s.misfit.isSome = true := by rw [hm]; rfl
    rw [doMisfit_cached s hs]; exact ⟨h, rfl, hs⟩
  | none =>
    cases hc : s.computed with
    | true => rw [doMisfit_computed s hm hc]; exact ⟨h.setMisfit (h.comp hc) hc, rfl, rfl⟩
    | false =>
      obtain ⟨hcoh, _, hs, hcomp⟩ := doComputeAll_coh none s h
      rw [doMisfit_compute s hm hc]; exact ⟨hcoh.setMisfit hs hcomp, rfl, rfl⟩

theorem ensureFields_coh (tag : Option Nat) (s : Sim) (h : CoherentW tag s) :
    CoherentW tag (ensureFields s) ∧ (ensureFields s).ver = s.ver ∧
    AllV (ensureFields s).efield s.ver ∧ (ensureFields s).misfit = s.misfit ∧
    (ensureFields s).residual = s.residual ∧ (ensureFields s).grad = s.grad := by
  unfold ensureFields
  cases hany : s.efield.any (·.isNone) with
  | true =>
    obtain ⟨hcoh, hef, _, _⟩ := doComputeAll_coh tag s h
    exact ⟨hcoh, rfl, hef, rfl, rfl, rfl⟩
  | false => exact ⟨h, rfl, AllV_of_AllVN_noNone _ _ h.ef hany, rfl, rfl, rfl⟩

theorem doGradient_cached (s : Sim) (h : s.grad.isSome = true) : doGradient s = s := by
  unfold doGradient
  cases hg : s.grad with
  | some g => rfl
  | none => simp [hg] at h

/-- `gradient` with the misfit cached and vector `tag` stored in the residual -/
theorem doGradient_coh (tag : Option Nat) (s : Sim) (h : CoherentW tag s)
    (hm : s.misfit.isSome = true) :
    CoherentW tag (doGradient s) ∧ (doGradient s).ver = s.ver ∧
    (doGradient s).grad.isSome = true ∧ (doGradient s).misfit = s.misfit ∧
    (doGradient s).residual = s.residual := by
  cases hg : s.grad with
  | some g =>
    have hs : s.grad.isSome = true := by rw [hg]; rfl
    rw [doGradient_cached s hs]; exact ⟨h, rfl, hs, rfl, rfl⟩
  | none =>
    obtain ⟨hcoh, hver, hef, hmis, hres, _⟩ := ensureFields_coh tag s h
    obtain ⟨⟨sy, w⟩, hr⟩ := Option.isSome_iff_exists.1 (h.resMis hm)
    have e : doGradient s =
        { ensureFields s with
          grad := some ((ensureFields s).efield, sy, w)
          bfield := true
          tolFwd := false } := by
      simp only [doGradient, hg, doMisfit_cached s hm, hres, hr]
    rw [e]
    refine ⟨{ hcoh with grad := fun e' sy' w' hg' => ?_ }, hver, rfl, hmis, hres⟩
    cases hg'
    show AllV (ensureFields s).efield (ensureFields s).ver ∧ AllV sy (ensureFields s).ver ∧ _
    rw [hver]
    exact ⟨hef, h.res sy w hr⟩

theorem doClean_coh (s : Sim) (w : CleanWhat) (h : Coherent s) : Coherent (doClean s w) := by
  cases w with
  | keepresults => exact { h with ef := AllVN_replicate _ _ }
  | computed => exact .cleared (AllVN_replicate _ _) (AllVN_replicate _ _) rfl rfl rfl rfl
  | all => exact .cleared (AllVN_replicate _ _) (AllVN_replicate _ _) rfl rfl rfl rfl

/-- coherence does not depend on the tolerance entry / on the stored b-fields -/
theorem CoherentW.withFlags {tag : Option Nat} {s : Sim} (h : CoherentW tag s) (b t : Bool) :
    CoherentW tag { s with bfield := b, tolFwd := t } :=
  { h with }

/-- storing another vector `w` in the residual (and dropping the gradient computed from the
old one) keeps coherence, now relative to `w`: both halves of `jtvec` -/
theorem CoherentW.retag {tag : Option Nat} {s : Sim} (h : CoherentW tag s)
    {sy : List (Option Ver)} {w0 : Option Nat} (hr : s.residual = some (sy, w0))
    (w : Option Nat) :
    CoherentW w { s with residual := some (sy, w), grad := none, bfield := false } :=
  { h with grad := fun _ _ _ hg => by cases hg
           res := fun _ _ hr' => by cases hr'; exact ⟨(h.res sy w0 hr).1, rfl⟩
           resMis := fun _ => rfl }

theorem step_jtvec (s : Sim) (w : Nat) {sy : List (Option Ver)} {w0 : Option Nat}
    (hr : (doMisfit s).residual = some (sy, w0)) :
    step s (.jtvec w) =
      let t := doGradient
        { doMisfit s with residual := some (sy, some w), grad := none, bfield := false }
      ({ t with residual := some (sy, w0), grad := none, bfield := false }, retGrad t) := by
  simp only [step, hr]

theorem retMisfit_ok (s : Sim) (h : Coherent s) : RetOk s.ver (retMisfit s) := by
  unfold retMisfit
  cases hm : s.misfit with
  | none => trivial
  | some m => exact (h.mis m hm).1

theorem retGrad_ok (tag : Option Nat) (s : Sim) (h : CoherentW tag s) : RetOk s.ver (retGrad s) := by
  unfold retGrad
  cases hg : s.grad with
  | none => trivial
  | some g => exact ⟨(h.grad _ _ _ hg).1, (h.grad _ _ _ hg).2.1⟩

theorem doMisfit_grad (s : Sim) : (doMisfit s).grad = s.grad := by
  unfold doMisfit
  cases s.misfit with
  | some m => rfl
  | none => cases s.computed <;> rfl

theorem doGradient_eq (s : Sim) (hg : s.grad = none) (h : Coherent s) :
    doGradient s = doGradient (doMisfit s) := by
  unfold doGradient
  rw [doMisfit_grad, doMisfit_cached (doMisfit s) (doMisfit_coh s h).2.2, hg]

/-- **Every public operation preserves coherence of all caches with the current model, and
what it returns belongs to the current model.** -/
theorem step_coherent (s : Sim) (op : Op) (h : Coherent s) :
    Coherent (step s op).1 ∧ RetOk (step s op).1.ver (step s op).2 := by
  cases op with
  | compute => exact ⟨(doComputeAll_coh none s h).1, trivial⟩
  | misfit =>
    obtain ⟨hc, _, _⟩ := doMisfit_coh s h
    exact ⟨hc, retMisfit_ok _ hc⟩
  | gradient =>
    obtain ⟨hc, _, hm⟩ := doMisfit_coh s h
    show Coherent (doGradient s) ∧ RetOk (doGradient s).ver (retGrad (doGradient s))
    cases hg : s.grad with
    | some g => rw [doGradient_cached s (by rw [hg]; rfl)]; exact ⟨h, retGrad_ok none s h⟩
    | none =>
      rw [doGradient_eq s hg h]
      obtain ⟨hcg, _⟩ := doGradient_coh none (doMisfit s) hc hm
      exact ⟨hcg, retGrad_ok none _ hcg⟩
  | jvec =>
    obtain ⟨hc, _, _⟩ := doMisfit_coh s h
    obtain ⟨hce, hve, hef, _⟩ := ensureFields_coh none (doMisfit s) hc
    refine ⟨hce.withFlags _ _, ?_⟩
    show AllV (ensureFields (doMisfit s)).efield (ensureFields (doMisfit s)).ver
    rw [hve]; exact hef
  | jtvec w =>
    obtain ⟨hc, _, hm⟩ := doMisfit_coh s h
    obtain ⟨⟨sy, w0⟩, hr⟩ := Option.isSome_iff_exists.1 (hc.resMis hm)
    obtain rfl : w0 = none := (hc.res sy w0 hr).2
    obtain ⟨hcg, _, _, _, hrg⟩ := doGradient_coh (some w) _ (hc.retag hr (some w)) hm
    rw [step_jtvec s w hr]
    exact ⟨hcg.retag hrg none, retGrad_ok _ _ hcg⟩
  | getEfield p => exact ⟨(doComputePair_coh none s p h).2, Or.inr trivial⟩
  | getHfield p => exact ⟨(doComputePair_coh none s p h).2, Or.inr trivial⟩
  | clean w => exact ⟨doClean_coh s w h, trivial⟩
  | copy w =>
    cases w with
    | computed => exact ⟨h.withFlags s.bfield true, trivial⟩
    | all => exact ⟨h.withFlags s.bfield true, trivial⟩
    | results => exact ⟨{ h with ef := AllVN_replicate _ _ }, trivial⟩
    | plain => exact ⟨Coherent_fresh _ _, trivial⟩
  | updateModel =>
    exact ⟨.cleared (AllVN_replicate _ _) (AllVN_replicate _ _) rfl rfl rfl rfl, trivial⟩

/-! ## histories -/

theorem run_fst (s : Sim) (ops : List Op) (op : Op) :
    (run s (ops ++ [op])).1 = (step (run s ops).1 op).1 := by
  unfold run
  rw [List.foldl_append]
  rfl

theorem run_coherent (s : Sim) (h : Coherent s) (ops : List Op) : Coherent (run s ops).1 := by
  unfold run
  have ha : Coherent (s, ([] : List Ret)).1 := h
  generalize (s, ([] : List Ret)) = acc at ha ⊢
  induction ops generalizing acc with
  | nil => exact ha
  | cons op ops ih => exact ih _ (step_coherent acc.1 op ha).1

/-- **Results are a function of the current model, not of the history**: after *any* sequence
of public operations on a new simulation, whatever the next operation returns (misfit,
gradient, `jvec`, `jtvec`, a field) was computed from the current model only — it is what a
fresh simulation of that model returns. -/
theorem history_independent (np : Nat) (v0 : Ver) (ops : List Op) (op : Op) :
    RetOk (step (run (fresh np v0) ops).1 op).1.ver (step (run (fresh np v0) ops).1 op).2 :=
  (step_coherent _ op (run_coherent _ (Coherent_fresh np v0) ops)).2

/-- stored synthetic data are those of the current model, or NaN (not computed) -/
theorem synthetic_current_or_nan (np : Nat) (v0 : Ver) (ops : List Op) :
    AllVN (run (fresh np v0) ops).1.syn (run (fresh np v0) ops).1.ver :=
  (run_coherent _ (Coherent_fresh np v0) ops).syn

/-- the flag "computed" means: the data of *all* source–frequency pairs are current -/
theorem computed_means_all_pairs (np : Nat) (v0 : Ver) (ops : List Op)
    (h : (run (fresh np v0) ops).1.computed = true) :
    AllV (run (fresh np v0) ops).1.syn (run (fresh np v0) ops).1.ver :=
  (run_coherent _ (Coherent_fresh np v0) ops).comp h

/-- the shared tolerance entry holds the forward tolerance after every forward run and in every
serialised form (copy / dict / file) -/
theorem tol_switch_restored (s : Sim) (w : CopyWhat) :
    (step s (.copy w)).1.tolFwd = true ∧ (step s .compute).1.tolFwd = true := by
  cases w <;> simp [step, doComputeAll, fresh]

/-- a copy is determined by the state of the original at copy time (and the original keeps its
state, up to the tolerance entry being reset) -/
theorem copy_independent (s : Sim) :
    (step s (.copy .computed)).1 = { s with tolFwd := true } ∧
    (step s (.copy .all)).1 = { s with tolFwd := true } ∧
    (step s (.copy .plain)).1 = fresh s.np s.ver := by
  simp [step]

/-- `jtvec` leaves no trace: afterwards there is no cached gradient, no back-propagated field,
and residual and misfit are those of the data misfit again -/
theorem jtvec_leaves_no_trace (s : Sim) (w : Nat) (h : Coherent s) :
    (step s (.jtvec w)).1.grad = none ∧ (step s (.jtvec w)).1.bfield = false ∧
    (step s (.jtvec w)).1.residual = (doMisfit s).residual ∧
    (step s (.jtvec w)).1.misfit = (doMisfit s).misfit := by
  obtain ⟨hc, _, hm⟩ := doMisfit_coh s h
  obtain ⟨⟨sy, w0⟩, hr⟩ := Option.isSome_iff_exists.1 (hc.resMis hm)
  obtain ⟨_, _, _, hmg, _⟩ := doGradient_coh (some w) _ (hc.retag hr (some w)) hm
  rw [step_jtvec s w hr]
  exact ⟨rfl, rfl, hr.symm, hmg⟩

end SimM
