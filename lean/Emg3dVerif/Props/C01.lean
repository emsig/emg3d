import Emg3dVerif.Model.Solve
/-!
# C01 — reported solver success certifies the returned field (control half)

`SolveM.solve` models the bookkeeping of `emg3d.solver.solve / multigrid / krylov / _terminate`
(tied to the code by the trace correspondence of `harness/c01.py`).  The numerics is an oracle:
the theorems hold for *every* sequence of residual norms and every sequence of Krylov events,
i.e. whatever smoothers, transfer operators and SciPy compute.
-/
namespace SolveM

/-! ## `_terminate` -/

/-- all that the level-0 loop needs to know about one call of `_terminate` -/
structure TermOk (cfg : Cfg) (l : FNum) (it : Nat) (t : Term) : Prop where
  conv : t.msg = some .converged ↔ l.lt cfg.tolRef = true
  maxit : it = cfg.maxit → t.finished = true
  fail : cfg.ssl = false → t.finished = true → l.lt cfg.tolRef = false →
    t.msg = some .diverged ∨ t.msg = some .stagnated ∨ t.msg = some .maxit

theorem terminate_ok (cfg : Cfg) (l s : FNum) (it : Nat) :
    TermOk cfg l it (terminate cfg l s it) := by
  unfold terminate
  split
  · next h => exact ⟨by simp [h], fun _ => rfl, fun _ _ hl => by rw [h] at hl; cases hl⟩
  · next h =>
    have h1 : l.lt cfg.tolRef = false := by simpa using h
    split
    · exact ⟨by simp [h1], fun _ => rfl, fun _ _ _ => .inl rfl⟩
    · split
      · exact ⟨by simp [h1], fun _ => rfl, fun _ _ _ => .inr (.inl rfl)⟩
      · split
        · exact ⟨by cases cfg.ssl <;> simp [h1], fun _ => rfl, fun hs _ _ => by simp [hs]⟩
        · next hm =>
          exact ⟨by simp [h1], fun e => absurd (beq_iff_eq.2 e) hm, fun _ hf _ => by cases hf⟩

theorem terminate_converged_iff (cfg : Cfg) (l s : FNum) (it : Nat) :
    (terminate cfg l s it).msg = some .converged ↔ l.lt cfg.tolRef = true :=
  (terminate_ok cfg l s it).conv

/-! ## the level-0 loop of `multigrid` -/

/-- bookkeeping invariant of the loop after `n` residuals have been handed to it -/
structure MgInv (cfg : Cfg) (n : Nat) (s : MgSt) : Prop where
  conv : s.msg = some .converged → s.l2last.lt cfg.tolRef = true ∧ s.done = true
  notdone : s.done = false → s.msg = none ∧ s.it = n
  fail : cfg.ssl = false → s.done = true → s.l2last.lt cfg.tolRef = false →
    s.msg = some .diverged ∨ s.msg = some .stagnated ∨ s.msg = some .maxit
  its : 1 ≤ cfg.maxit → s.it ≤ cfg.maxit ∧ (s.done = false → s.it < cfg.maxit)

theorem mgInit_inv (cfg : Cfg) (r0 : FNum) : MgInv cfg 0 (mgInit cfg r0) := by
  constructor <;> simp [mgInit] <;> omega

theorem mgStep_done {cfg : Cfg} {s : MgSt} (h : s.done = true) (r : FNum) : mgStep cfg s r = s :=
  if_pos h

theorem mgStep_inv (cfg : Cfg) (n : Nat) (s : MgSt) (r : FNum) (h : MgInv cfg n s) :
    MgInv cfg (n+1) (mgStep cfg s r) := by
  cases hd : s.done with
  | true =>
    rw [mgStep_done hd]
    exact { h with notdone := fun hnd => by rw [hd] at hnd; cases hnd }
  | false =>
    obtain ⟨hm, hit⟩ := h.notdone hd
    simp only [mgStep, hd, Bool.false_eq_true, if_false]
    have ht := terminate_ok cfg r ((s.stag.set (stagIdx s.it cfg.maxcycle) s.l2last).getD
      (stagIdx (s.it + 1) cfg.maxcycle) FNum.nan) (s.it + 1)
    generalize terminate cfg r _ (s.it + 1) = t at ht ⊢
    cases hf : t.finished with
    | false =>
      -- still running: only the counter moves, and it cannot have reached `maxit`
      refine ⟨by simp [hm], fun _ => ⟨hm, by show s.it + 1 = n + 1; omega⟩, by simp, fun hmx => ?_⟩
      have := (h.its hmx).2 hd
      have : s.it + 1 ≠ cfg.maxit := fun e => by simpa [hf] using ht.maxit e
      exact ⟨by show s.it + 1 ≤ _; omega, fun _ => by show s.it + 1 < _; omega⟩
    | true =>
      -- finished: the message is the one `_terminate` has just set (none was set before)
      simp only [if_true, hm]
      refine ⟨fun hmsg => ⟨ht.conv.1 ?_, rfl⟩, by simp, ?_,
        fun hmx => ⟨by have := (h.its hmx).2 hd; simp only; omega, by simp⟩⟩
      · cases htm : t.msg <;> simp_all
      · intro hssl _ hlt
        rcases ht.fail hssl hf hlt with h1 | h1 | h1 <;> simp [h1]

theorem mgRun_inv (cfg : Cfg) (r0 : FNum) (rs : List FNum) :
    MgInv cfg rs.length (mgRun cfg r0 rs) := by
  have : ∀ n s, MgInv cfg n s → MgInv cfg (n + rs.length) (rs.foldl (mgStep cfg) s) := by
    induction rs with
    | nil => intro n s h; exact h
    | cons r rs ih =>
      intro n s h
      rw [List.length_cons, ← Nat.add_assoc, Nat.add_right_comm]
      exact ih _ _ (mgStep_inv cfg n s r h)
  simpa [mgRun] using this 0 _ (mgInit_inv cfg r0)

/-- the loop stops after at most `maxit` cycles (`maxit ≥ 1`) -/
theorem mg_terminates_within_maxit (cfg : Cfg) (r0 : FNum) (rs : List FNum) (h : 1 ≤ cfg.maxit) :
    (mgRun cfg r0 rs).it ≤ cfg.maxit ∧
    (cfg.maxit ≤ rs.length → (mgRun cfg r0 rs).done = true) := by
  have inv := mgRun_inv cfg r0 rs
  refine ⟨(inv.its h).1, fun hlen => ?_⟩
  -- while not done the counter equals the number of residuals, and stays below `maxit`
  cases hnd : (mgRun cfg r0 rs).done with
  | true => rfl
  | false =>
    have := (inv.notdone hnd).2
    have := (inv.its h).2 hnd
    omega

/-- the reported error is the residual of the last field: if the loop was still running before
the last recorded residual, `l2last` is that residual and `it` counts the cycles -/
theorem mgRun_last_residual (cfg : Cfg) (r0 : FNum) (rs : List FNum) (r : FNum)
    (h : (mgRun cfg r0 rs).done = false) :
    (mgRun cfg r0 (rs ++ [r])).l2last = r ∧ (mgRun cfg r0 (rs ++ [r])).it = (mgRun cfg r0 rs).it + 1 := by
  unfold mgRun at h ⊢
  rw [List.foldl_append]
  simp only [List.foldl_cons, List.foldl_nil]
  simp [mgStep, h]


/-! ## `solve` -/

def kFinal (inp : Inp) : KSt :=
  inp.events.foldl (kStep inp.cfg)
    ⟨0, 0, if inp.fresh then .fin 1 else inp.rProvided, .empty, false, none⟩

theorem exit_code_iff (m : Msg) :
    (if (m == .converged) = true then 0 else 1) = 0 ↔ m = .converged := by
  cases m <;> decide

/-- the branch of `solve` that runs plain multigrid -/
theorem solve_mg {inp : Inp} (hz : inp.zeroSource = false)
    (hgood : (!inp.fresh && inp.rProvided.lt inp.cfg.tolRef) = false)
    (hssl : inp.cfg.ssl = false) (hcyc : inp.cycle = true) :
    solve inp =
      let m := mgRun inp.cfg inp.mgR0 inp.mgRs
      let msg := m.msg.getD .empty
      { exit := if msg == .converged then 0 else 1, msg := msg, itMg := m.it, itSsl := 0,
        absErr := m.l2last, ranSolver := true, zeroField := false, returned := inp.fresh } := by
  unfold solve
  simp only [hz, hgood, hssl, hcyc, Bool.false_eq_true, if_false, if_true]
  cases (mgRun inp.cfg inp.mgR0 inp.mgRs).msg <;> rfl

/-- the branch of `solve` that runs the Krylov solver -/
theorem solve_ssl {inp : Inp} (hz : inp.zeroSource = false)
    (hgood : (!inp.fresh && inp.rProvided.lt inp.cfg.tolRef) = false) (hssl : inp.cfg.ssl = true) :
    solve inp =
      { exit := if finishMsg (kFinal inp) == .converged then 0 else 1,
        msg := finishMsg (kFinal inp), itMg := (kFinal inp).itMg, itSsl := (kFinal inp).itSsl,
        absErr := (kFinal inp).l2, ranSolver := true, zeroField := false,
        returned := inp.fresh } := by
  unfold solve
  simp only [hz, hgood, hssl, Bool.false_eq_true, if_false, if_true]
  rfl

/-- **exit status 0 ⇔ message "CONVERGED"**, on every path -/
theorem exit_zero_iff_converged (inp : Inp) : (solve inp).exit = 0 ↔ (solve inp).msg = .converged := by
  cases hz : inp.zeroSource with
  | true => unfold solve; simp [hz]
  | false =>
  cases hgood : (!inp.fresh && inp.rProvided.lt inp.cfg.tolRef) with
  | true => unfold solve; simp [hz, hgood]
  | false =>
  cases hssl : inp.cfg.ssl with
  | true => rw [solve_ssl hz hgood hssl]; exact exit_code_iff _
  | false =>
  cases hcyc : inp.cycle with
  | true => rw [solve_mg hz hgood hssl hcyc]; exact exit_code_iff _
  | false => unfold solve; simp [hz, hgood, hssl, hcyc]

/-- **plain multigrid: success certifies the field** — if exit status 0 is reported, the
reported absolute error is the residual norm of the last field and it is below `tol·‖s‖`
(IEEE comparison), whatever the cycles computed. -/
theorem mg_success_certifies (inp : Inp) (hz : inp.zeroSource = false)
    (hgood : (!inp.fresh && inp.rProvided.lt inp.cfg.tolRef) = false)
    (hssl : inp.cfg.ssl = false) (hcyc : inp.cycle = true) (hexit : (solve inp).exit = 0) :
    (solve inp).absErr = (mgRun inp.cfg inp.mgR0 inp.mgRs).l2last ∧
    (solve inp).absErr.lt inp.cfg.tolRef = true ∧
    (solve inp).itMg = (mgRun inp.cfg inp.mgR0 inp.mgRs).it := by
  rw [solve_mg hz hgood hssl hcyc] at hexit ⊢
  refine ⟨rfl, ?_, rfl⟩
  have hm : (mgRun inp.cfg inp.mgR0 inp.mgRs).msg = some .converged := by
    have h : (mgRun inp.cfg inp.mgR0 inp.mgRs).msg.getD .empty = .converged :=
      (exit_code_iff _).1 hexit
    cases hm : (mgRun inp.cfg inp.mgR0 inp.mgRs).msg with
    | none => rw [hm] at h; cases h
    | some m => rw [hm] at h; exact congrArg some h
  exact ((mgRun_inv inp.cfg inp.mgR0 inp.mgRs).conv hm).1

/-- **plain multigrid: a run that does not reach the tolerance is reported as a failure** with
an explanatory message -/
theorem mg_failure_is_reported (inp : Inp) (hz : inp.zeroSource = false)
    (hgood : (!inp.fresh && inp.rProvided.lt inp.cfg.tolRef) = false)
    (hssl : inp.cfg.ssl = false) (hcyc : inp.cycle = true)
    (hdone : (mgRun inp.cfg inp.mgR0 inp.mgRs).done = true)
    (hres : (mgRun inp.cfg inp.mgR0 inp.mgRs).l2last.lt inp.cfg.tolRef = false) :
    (solve inp).exit = 1 ∧
    ((solve inp).msg = .diverged ∨ (solve inp).msg = .stagnated ∨ (solve inp).msg = .maxit) := by
  rw [solve_mg hz hgood hssl hcyc]
  rcases (mgRun_inv inp.cfg inp.mgR0 inp.mgRs).fail hssl hdone hres with h | h | h <;> simp [h]

/-- a supplied field that is already good enough: nothing is run, success is reported with the
error of that very field -/
theorem already_converged_noop (inp : Inp) (hz : inp.zeroSource = false) (hf : inp.fresh = false)
    (hlt : inp.rProvided.lt inp.cfg.tolRef = true) :
    (solve inp).exit = 0 ∧ (solve inp).msg = .converged ∧ (solve inp).itMg = 0 ∧
    (solve inp).itSsl = 0 ∧ (solve inp).absErr = inp.rProvided ∧ (solve inp).ranSolver = false := by
  unfold solve
  simp [hz, hf, hlt]

/-- **a zero source yields the zero field** (also written into a supplied field), error 0 -/
theorem zero_source_zero_field (inp : Inp) (hz : inp.zeroSource = true) :
    (solve inp).exit = 0 ∧ (solve inp).zeroField = true ∧ (solve inp).absErr = .fin 0 ∧
    (solve inp).ranSolver = false := by
  unfold solve
  simp [hz]

/-! ### Krylov -/

theorem finishMsg_converged_iff (s : KSt) :
    finishMsg s = .converged ↔
      (s.raised = false ∧ ((s.info = some 0) ∨ (s.info = none ∧ s.msg = .converged))) := by
  unfold finishMsg
  cases s.raised with
  | true => cases s.msg <;> simp
  | false =>
    cases s.info with
    | none => simp
    | some i =>
      rcases Int.lt_trichotomy i 0 with h | rfl | h
      · have hne : i ≠ 0 := by omega
        cases s.msg <;> simp [h, hne]
      · simp
      · have hne : i ≠ 0 := by omega
        have hn : ¬ i < 0 := by omega
        simp [h, hn, hne]
/-- **Krylov: exit status 0 ⇔ no abort and SciPy returned `info = 0`** (or nothing was returned
and "CONVERGED" stands).  The Krylov theorems below are its instances. -/
theorem krylov_exit_zero_iff {inp : Inp} (hz : inp.zeroSource = false)
    (hgood : (!inp.fresh && inp.rProvided.lt inp.cfg.tolRef) = false) (hssl : inp.cfg.ssl = true) :
    (solve inp).exit = 0 ↔ (kFinal inp).raised = false ∧
      ((kFinal inp).info = some 0 ∨ ((kFinal inp).info = none ∧ (kFinal inp).msg = .converged)) := by
  rw [solve_ssl hz hgood hssl, ← finishMsg_converged_iff]
  exact exit_code_iff _

theorem krylov_failure {inp : Inp} (hz : inp.zeroSource = false)
    (hgood : (!inp.fresh && inp.rProvided.lt inp.cfg.tolRef) = false) (hssl : inp.cfg.ssl = true)
    (h : ¬ (solve inp).exit = 0) : (solve inp).exit = 1 ∧ (solve inp).msg ≠ .converged := by
  refine ⟨?_, fun hm => h ((exit_zero_iff_converged inp).2 hm)⟩
  rw [solve_ssl hz hgood hssl] at h ⊢
  exact if_neg fun hc => h (if_pos hc)

/-- an abort (`_ConvergenceError` raised in a preconditioner run) is always a reported failure -/
theorem krylov_abort_is_failure (inp : Inp) (hz : inp.zeroSource = false)
    (hgood : (!inp.fresh && inp.rProvided.lt inp.cfg.tolRef) = false) (hssl : inp.cfg.ssl = true)
    (hr : (kFinal inp).raised = true) : (solve inp).exit = 1 ∧ (solve inp).msg ≠ .converged :=
  krylov_failure hz hgood hssl fun h => by
    have := ((krylov_exit_zero_iff hz hgood hssl).1 h).1
    rw [hr] at this; cases this

/-- **Krylov: success ⇔ SciPy returned `info = 0` without abort** — for every `info`, negative
ones (breakdown) included: a "CONVERGED" left behind by `_terminate` in a preconditioner run
does not survive a negative info (the defect repaired in f9ccc85; before, the statement needed
the hypothesis `0 ≤ info`, and the excluded point was reachable). -/
theorem krylov_success_iff_info_zero (inp : Inp) (hz : inp.zeroSource = false)
    (hgood : (!inp.fresh && inp.rProvided.lt inp.cfg.tolRef) = false) (hssl : inp.cfg.ssl = true)
    (i : Int) (hinfo : (kFinal inp).info = some i) :
    (solve inp).exit = 0 ↔ ((kFinal inp).raised = false ∧ i = 0) := by
  rw [krylov_exit_zero_iff hz hgood hssl, hinfo]
  simp

/-- a breakdown of the Krylov solver (negative `info`) is always a reported failure -/
theorem krylov_breakdown_is_failure (inp : Inp) (hz : inp.zeroSource = false)
    (hgood : (!inp.fresh && inp.rProvided.lt inp.cfg.tolRef) = false) (hssl : inp.cfg.ssl = true)
    (i : Int) (hinfo : (kFinal inp).info = some i) (hneg : i < 0) :
    (solve inp).exit = 1 ∧ (solve inp).msg ≠ .converged :=
  krylov_failure hz hgood hssl fun h => by
    have := ((krylov_success_iff_info_zero inp hz hgood hssl i hinfo).1 h).2
    omega

/-- state after the events `pre` -/
def kPre (inp : Inp) (pre : List KEvent) : KSt :=
  pre.foldl (kStep inp.cfg) ⟨0, 0, if inp.fresh then .fin 1 else inp.rProvided, .empty, false, none⟩

/-- **Krylov: the reported error is the residual of the returned field.**  If SciPy returns
(event `ret info r`) after events that neither aborted nor returned, `abs_error = r`. -/
theorem krylov_reports_returned_field (inp : Inp) (hz : inp.zeroSource = false)
    (hgood : (!inp.fresh && inp.rProvided.lt inp.cfg.tolRef) = false) (hssl : inp.cfg.ssl = true)
    (pre : List KEvent) (info : Int) (r : FNum) (hev : inp.events = pre ++ [.ret info r])
    (hpre : (kPre inp pre).raised = false ∧ (kPre inp pre).info = none) :
    (solve inp).absErr = r := by
  rw [solve_ssl hz hgood hssl]
  show (kFinal inp).l2 = r
  rw [kFinal, hev, List.foldl_append]
  show (kStep inp.cfg (kPre inp pre) (.ret info r)).l2 = r
  simp [kStep, hpre.1, hpre.2]

end SolveM
