import Emg3dVerif.Model.Fourier
import Mathlib.Order.Basic
import Mathlib.Order.Lattice
import Mathlib.Data.List.Basic
/-!
# C20 — the time-domain helper partitions and fills frequencies consistently

Theorems about the model `Fou` of `emg3d.time.Fourier`.
-/
namespace Fou
variable {K : Type} [LinearOrder K]

/-- (`below c f = true` and `above c f = true` are `decide (f < c.fmin) = true` and
`decide (c.fmax < f) = true` by unfolding: `of_decide_eq_true` / `decide_eq_true` convert) -/
theorem inBand_iff {c : Cfg K} {f : K} : inBand c f = true ↔ c.fmin ≤ f ∧ f ≤ c.fmax := by
  simp only [inBand, Bool.and_eq_true, decide_eq_true_iff]

/-- **three disjoint groups that cover everything**: for `fmin ≤ fmax` every frequency is in
exactly one of: below the band (extrapolated), in the band (taken / interpolated), above (zero) -/
theorem three_way_partition (c : Cfg K) (h : c.fmin ≤ c.fmax) (f : K) :
    (below c f = true ∧ inBand c f = false ∧ above c f = false) ∨
    (below c f = false ∧ inBand c f = true ∧ above c f = false) ∨
    (below c f = false ∧ inBand c f = false ∧ above c f = true) := by
  simp only [Bool.eq_false_iff, Ne, below, above, inBand_iff, decide_eq_true_eq, not_lt]
  rcases lt_or_ge f c.fmin with h1 | h1
  · exact .inl ⟨h1, fun hb => absurd h1 hb.1.not_gt, h1.le.trans h⟩
  · rcases le_or_gt f c.fmax with h2 | h2
    · exact .inr (.inl ⟨h1, ⟨h1, h2⟩, h2⟩)
    · exact .inr (.inr ⟨h1, fun hb => absurd h2 hb.2.not_gt, h2⟩)

/-- the hypothesis is needed: with `fmax < fmin` a frequency in between is in two groups -/
theorem partition_needs_order (c : Cfg K) (f : K) (h1 : c.fmax < f) (h2 : f < c.fmin) :
    below c f = true ∧ above c f = true :=
  ⟨decide_eq_true h2, decide_eq_true h1⟩

/-- **computed frequencies lie in the requested band** and are frequencies of the coarse set -/
theorem computed_in_band (c : Cfg K) :
    ∀ f ∈ freqCompute c, c.fmin ≤ f ∧ f ≤ c.fmax ∧ f ∈ coarse c := by
  intro f hf
  obtain ⟨hm, hb⟩ := List.mem_filter.1 hf
  exact ⟨(inBand_iff.1 hb).1, (inBand_iff.1 hb).2, hm⟩

/-- data are only taken over unchanged if the computed frequencies *are* the required in-band
frequencies -/
theorem direct_frequencies_coincide (c : Cfg K) (h : coarse c = c.req) :
    freqCompute c = freqInterpolate c := by
  unfold freqCompute freqInterpolate
  rw [h]

/-- without coarse-frequency options the model is computed at the required in-band frequencies -/
theorem compute_eq_interpolate (c : Cfg K) (h1 : c.everyX = none) (h2 : c.inputFreq = none) :
    freqCompute c = freqInterpolate c := by
  apply direct_frequencies_coincide
  unfold coarse
  rw [h1, h2]

theorem everyNth_sublist {K : Type} (n : Nat) (l : List K) : (everyNth n l).Sublist l := by
  unfold everyNth
  simpa only [List.zipIdx_map_fst] using (List.filter_sublist (l := l.zipIdx)).map Prod.fst

/-- `every_x_freq` takes a sub-sequence of the required frequencies -/
theorem everyX_sublist (c : Cfg K) (n : Nat) (h : c.everyX = some n) :
    (coarse c).Sublist c.req := by
  unfold coarse
  rw [h]
  exact everyNth_sublist n c.req

section interp
variable {V : Type} (c : Cfg K) (spline pchip : List K → List V → K → V) (lo : K)
  (anchor : V → V) (zero : V) (fdata : List V)

/-- value written at position `i` of the required frequencies -/
theorem interpolate_get (i : Nat) (hi : i < c.req.length) :
    (interpolate c spline pchip lo anchor zero fdata)[i]? =
      some (if inBand c c.req[i] then
              (if coarse c = c.req then fdata.getD (rankIn c i) zero
               else spline (freqCompute c) fdata c.req[i])
            else if below c c.req[i] then
              pchip (lo :: freqCompute c) (anchor (fdata.headD zero) :: fdata) c.req[i]
            else zero) := by
  unfold interpolate
  simp only [List.getElem?_map, List.getElem?_zipIdx, List.getElem?_eq_getElem hi,
    Option.map_some, Nat.zero_add]

theorem interpolate_length :
    (interpolate c spline pchip lo anchor zero fdata).length = c.req.length := by
  unfold interpolate
  rw [List.length_map, List.length_zipIdx]

/-- **above the band the spectrum is zero** -/
theorem above_band_zero (h : c.fmin ≤ c.fmax) (i : Nat) (hi : i < c.req.length)
    (ha : above c c.req[i] = true) :
    (interpolate c spline pchip lo anchor zero fdata)[i]? = some zero := by
  have h1 : ¬ inBand c c.req[i] = true := fun hb =>
    absurd (inBand_iff.1 hb).2 (of_decide_eq_true ha).not_ge
  -- `below` is tested first, so this is where `fmin ≤ fmax` is needed
  have h2 : ¬ below c c.req[i] = true := fun hb =>
    absurd ((of_decide_eq_true ha).trans (of_decide_eq_true hb)) h.not_gt
  rw [interpolate_get (hi := hi), if_neg h1, if_neg h2]

/-- **pass-through**: if the coarse set is the required set, the supplied data are copied
unchanged to the in-band positions, in order -/
theorem passthrough (hd : coarse c = c.req) (i : Nat) (hi : i < c.req.length)
    (hb : inBand c c.req[i] = true) :
    (interpolate c spline pchip lo anchor zero fdata)[i]? =
      some (fdata.getD (rankIn c i) zero) := by
  rw [interpolate_get (hi := hi), if_pos hb, if_pos hd]

/-- in the spline branch a required frequency that coincides with a computed one gets the
supplied datum, provided the spline interpolates its nodes -/
theorem spline_coincident (hd : coarse c ≠ c.req)
    (hs : ∀ (xs : List K) (ys : List V) (j : Nat) (hx : j < xs.length) (hy : j < ys.length),
      spline xs ys xs[j] = ys[j])
    (i : Nat) (hi : i < c.req.length) (hb : inBand c c.req[i] = true)
    (j : Nat) (hj : j < (freqCompute c).length) (hjd : j < fdata.length)
    (he : (freqCompute c)[j] = c.req[i]) :
    (interpolate c spline pchip lo anchor zero fdata)[i]? = some fdata[j] := by
  rw [interpolate_get (hi := hi), if_pos hb, if_neg hd, ← he, hs (freqCompute c) fdata j hj hjd]

/-- **below the band** the value is the PCHIP interpolant through the computed data extended by
the anchor at the lowest frequency -/
theorem extrapolated (h : c.fmin ≤ c.fmax) (i : Nat) (hi : i < c.req.length)
    (hb : below c c.req[i] = true) :
    (interpolate c spline pchip lo anchor zero fdata)[i]? =
      some (pchip (lo :: freqCompute c) (anchor (fdata.headD zero) :: fdata) c.req[i]) := by
  have h1 : ¬ inBand c c.req[i] = true := fun hi =>
    absurd (inBand_iff.1 hi).1 (of_decide_eq_true hb).not_ge
  rw [interpolate_get (hi := hi), if_neg h1, if_pos hb]

end interp

/-- **shape of the extrapolation, real part**: the anchor has the real part of the lowest computed
datum, so the first interval is flat; an interpolant that is constant on a flat first interval
(PCHIP is) keeps the real part at the lowest computed value for every extrapolated frequency -/
theorem extrapolation_real_part {R : Type} (c : Cfg K) (pchipR : List K → List R → K → R)
    (lo : K) (fc0 : K) (fcs : List K) (r0 : R) (rs : List R) (f : K)
    (hfc : freqCompute c = fc0 :: fcs)
    (hflat : ∀ (x0 x1 : K) (xs : List K) (y : R) (ys : List R) (x : K),
      x0 ≤ x → x ≤ x1 → pchipR (x0 :: x1 :: xs) (y :: y :: ys) x = y)
    (hlo : lo ≤ f) (hb : below c f = true) :
    pchipR (lo :: freqCompute c) (r0 :: r0 :: rs) f = r0 := by
  rw [hfc]
  apply hflat
  · exact hlo
  · have h0 := (computed_in_band c fc0 (hfc ▸ List.mem_cons_self)).1
    exact (of_decide_eq_true hb).le.trans h0

end Fou

namespace Fou

/-- `_check_coarse_inputs` never leaves both options set -/
theorem checkCoarse_excl (k : Bool) (s : Bool × Bool) :
    ¬ ((checkCoarse k s).1 = true ∧ (checkCoarse k s).2 = true) := by
  unfold checkCoarse
  split
  · cases k <;> decide
  · rwa [← Bool.and_eq_true]

/-- **`input_freq` and `every_x_freq` are never both in effect**, after any sequence of
constructor / setter operations; the one set last wins (the constructor keeps `input_freq`) -/
theorem coarse_options_exclusive (ops : List CoarseOp) (s0 : Bool × Bool)
    (h0 : ¬ (s0.1 = true ∧ s0.2 = true)) :
    ¬ ((ops.foldl coarseStep s0).1 = true ∧ (ops.foldl coarseStep s0).2 = true) := by
  induction ops generalizing s0 with
  | nil => exact h0
  | cons op t ih => exact ih _ (by cases op <;> exact checkCoarse_excl _ _)

theorem setEvery_wins (s : Bool × Bool) : coarseStep s (.setEvery true) = (false, true) ∨
    coarseStep s (.setEvery true) = (s.1, true) ∧ s.1 = false := by
  obtain ⟨a, b⟩ := s
  cases a <;> exact .inl rfl

theorem setInput_wins (s : Bool × Bool) : (coarseStep s (.setInput true)).1 = true ∧
    (coarseStep s (.setInput true)).2 = false ∨ (coarseStep s (.setInput true)) = (true, s.2) := by
  obtain ⟨a, b⟩ := s
  cases b <;> exact .inl ⟨rfl, rfl⟩

end Fou
