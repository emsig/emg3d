-- `harness/c17.py` audits the `IoT` theorems through this module: the import puts them in scope
import Emg3dVerif.Props.C17
import Emg3dVerif.Model.JsonKey
/-!
# C17, glue: the key flags of the JSON format are recovered exactly

`unflag_flag`: for every key that contains neither marker (`__array-`, `__complex`), every dtype
name that does not contain `__array-`, and every combination of flags, what `_dict_array_comp`
recovers from the flagged key is the key and the flags — in particular for keys that *end with
underscores* (`x_`, `_`, `a__`), the case the pinned tree got wrong (`key.split('__')[-1]`;
repaired in 984e1da).  The hypotheses are sharp: `marker_in_key_is_misread` exhibits a key
containing a marker that is not recovered.

Strings are `List Char`; `rsplit1`, `contains`, `removeAll` are the executable models of
`str.rsplit(sep, 1)`, `in`, `str.replace(sep, '')` (driver op `jkey`, compared with CPython on
adversarial keys by `harness/c17.py`).  Core Lean only.
-/
namespace JKey

/-! ## prefixes -/

theorem isPrefixOf_self_append (m d : Str) : m.isPrefixOf (m ++ d) = true := by
  induction m with
  | nil => simp [List.isPrefixOf]
  | cons c m ih => simp [ih]

/-- a prefix test that succeeds on `u ++ w` with `u` shorter than the pattern continues on `w` -/
theorem prefix_split (m u w : Str) (h : m.isPrefixOf (u ++ w) = true) (hl : u.length ≤ m.length) :
    (m.drop u.length).isPrefixOf w = true ∧ u.isPrefixOf m = true := by
  rw [List.isPrefixOf_iff_prefix] at h
  have hu : u <+: m := List.prefix_of_prefix_length_le (List.prefix_append u w) h hl
  rw [List.isPrefixOf_iff_prefix, List.isPrefixOf_iff_prefix]
  refine ⟨?_, hu⟩
  obtain ⟨v, rfl⟩ := hu
  rw [List.drop_left]
  exact (List.prefix_append_right_inj u).1 h

/-- … and with `u` at least as long as the pattern it succeeds on `u` alone -/
theorem prefix_long (m u w : Str) (h : m.isPrefixOf (u ++ w) = true) (hl : m.length ≤ u.length) :
    m.isPrefixOf u = true := by
  rw [List.isPrefixOf_iff_prefix] at h ⊢
  exact List.prefix_of_prefix_length_le h (List.prefix_append u w) hl

/-! ## `in` -/

theorem contains_cons (m : Str) (c : Char) (s : Str) :
    contains m (c :: s) = (m.isPrefixOf (c :: s) || contains m s) := rfl

theorem contains_of_prefix (m s : Str) (h : m.isPrefixOf s = true) : contains m s = true := by
  cases s with
  | nil => simpa [contains] using h
  | cons c s => rw [contains_cons, h]; rfl

theorem contains_append_self (m k d : Str) : contains m (k ++ (m ++ d)) = true := by
  induction k with
  | nil => exact contains_of_prefix _ _ (isPrefixOf_self_append m d)
  | cons c k ih => rw [List.cons_append, contains_cons, ih]; simp

/-- no self-overlap: no proper non-empty suffix of `m` is a prefix of `m` -/
def NoBorder (m : Str) : Prop := ∀ j, 0 < j → j < m.length → (m.drop j).isPrefixOf m = false

/-- `m` cannot start in a non-empty proper suffix of itself and run into `w` -/
def NoStraddle (m w : Str) : Prop := ∀ j, 0 < j → j < m.length → (m.drop j).isPrefixOf w = false

/-- the one place where the seam is looked at: an occurrence of `m` at the start of `u ++ w`
with `u ≠ []` lies in `u`, or straddles the seam -/
theorem prefix_seam (m u w : Str) (hu : u ≠ []) (h1 : m.isPrefixOf u = false)
    (hs : NoStraddle m w) :
    m.isPrefixOf (u ++ w) = false := by
  cases hp : m.isPrefixOf (u ++ w) with
  | false => rfl
  | true =>
    exfalso
    by_cases hl : m.length ≤ u.length
    · rw [prefix_long m u w hp hl] at h1; cases h1
    · have hlt : u.length < m.length := Nat.lt_of_not_le hl
      have := (prefix_split m u w hp (Nat.le_of_lt hlt)).1
      rw [hs u.length (List.length_pos_iff.2 hu) hlt] at this; cases this
/-- no occurrence in `k`, none in `w`, none across the seam: none in `k ++ w` -/
theorem contains_append_false (m k w : Str) (hk : contains m k = false) (hw : contains m w = false)
    (hs : NoStraddle m w) : contains m (k ++ w) = false := by
  induction k with
  | nil => simpa using hw
  | cons c k ih =>
    rw [contains_cons, Bool.or_eq_false_iff] at hk
    rw [List.cons_append, contains_cons, ih hk.2, Bool.or_false]
    exact prefix_seam m (c :: k) w (List.cons_ne_nil c k) hk.1 hs

/-! ## `rsplit(sep, 1)` -/

theorem rsplit1_none (m s : Str) (h : contains m s = false) : rsplit1 m s = none := by
  induction s with
  | nil =>
    simp only [contains] at h
    simp [rsplit1, h]
  | cons c s ih =>
    rw [contains_cons, Bool.or_eq_false_iff] at h
    simp [rsplit1, ih h.2, h.1]

/-- the split is at the marker that was appended, whatever stands before it, provided the
marker does not occur again further right -/
theorem rsplit1_append (m k d : Str) (hm : m ≠ [])
    (hlater : contains m ((m ++ d).tail) = false) : rsplit1 m (k ++ (m ++ d)) = some (k, d) := by
  induction k with
  | nil =>
    cases m with
    | nil => exact absurd rfl hm
    | cons c m' =>
      simp only [List.nil_append, List.cons_append, List.tail_cons] at hlater ⊢
      have hp := isPrefixOf_self_append (c :: m') d
      simp only [List.cons_append] at hp
      simp [rsplit1, rsplit1_none _ _ hlater, hp]
  | cons c k ih => simp [rsplit1, ih]

/-! ## `replace(sep, '')` -/

theorem removeAllAux_skip (m : Str) : ∀ (s : Str) (n : Nat), s.length ≤ n → removeAllAux m n s = []
  | [], _, _ => by cases ‹Nat› <;> rfl
  | _ :: s, 0, h => by simp at h
  | _ :: s, n + 1, h => by
    simp only [removeAllAux]
    exact removeAllAux_skip m s n (by simpa using h)

/-- no occurrence of `m` in `k ++ m` starts inside `k` -/
def NoOccBefore (m : Str) : Str → Prop
  | [] => True
  | c :: k => m.isPrefixOf (c :: k ++ m) = false ∧ NoOccBefore m k

theorem noOccBefore_of (m k : Str) (hk : contains m k = false) (hb : NoBorder m) :
    NoOccBefore m k := by
  induction k with
  | nil => trivial
  | cons c k ih =>
    rw [contains_cons, Bool.or_eq_false_iff] at hk
    exact ⟨prefix_seam m (c :: k) m (List.cons_ne_nil c k) hk.1 hb, ih hk.2⟩

theorem removeAll_append_self (m k : Str) (hm : m ≠ []) (h : NoOccBefore m k) :
    removeAll m (k ++ m) = k := by
  unfold removeAll
  induction k with
  | nil =>
    cases m with
    | nil => exact absurd rfl hm
    | cons c m' =>
      have hp : (c :: m').isPrefixOf (c :: m') = true := by simp
      simp only [List.nil_append, removeAllAux, hp, if_true]
      exact removeAllAux_skip _ m' _ (by simp)
  | cons c k ih =>
    obtain ⟨h1, h2⟩ := h
    simp only [List.cons_append] at h1 ⊢
    simp only [removeAllAux, h1]
    simp [ih h2]

/-! ## the two markers -/

/-- the markers as character lists, decoded from the string literals once -/
theorem arrMark_eq : arrMark = ['_', '_', 'a', 'r', 'r', 'a', 'y', '-'] := by decide
theorem cplxMark_eq : cplxMark = ['_', '_', 'c', 'o', 'm', 'p', 'l', 'e', 'x'] := by decide

theorem arrMark_ne : arrMark ≠ [] := by rw [arrMark_eq]; exact List.cons_ne_nil _ _
theorem cplxMark_ne : cplxMark ≠ [] := by rw [cplxMark_eq]; exact List.cons_ne_nil _ _

theorem cplx_noBorder : NoBorder cplxMark := by
  rw [cplxMark_eq]
  intro j h0 hj
  have key : ∀ i : Fin 9, 0 < i.val →
      (['_', '_', 'c', 'o', 'm', 'p', 'l', 'e', 'x'].drop i.val).isPrefixOf
        ['_', '_', 'c', 'o', 'm', 'p', 'l', 'e', 'x'] = false := by
    decide
  exact key ⟨j, hj⟩ h0

theorem arr_noStraddle_cplx : NoStraddle arrMark cplxMark := by
  rw [arrMark_eq, cplxMark_eq]
  intro j h0 hj
  have key : ∀ i : Fin 8, 0 < i.val →
      (['_', '_', 'a', 'r', 'r', 'a', 'y', '-'].drop i.val).isPrefixOf
        ['_', '_', 'c', 'o', 'm', 'p', 'l', 'e', 'x'] = false := by
    decide
  exact key ⟨j, hj⟩ h0

theorem arr_notin_cplx : contains arrMark cplxMark = false := by
  rw [arrMark_eq, cplxMark_eq]; decide

/-- after the appended array marker the marker does not occur again (dtype names do not
contain it, and the marker does not overlap itself) -/
theorem arr_later (d : Str) (hd : contains arrMark d = false) :
    contains arrMark ((arrMark ++ d).tail) = false := by
  show contains arrMark ('_' :: 'a' :: 'r' :: 'r' :: 'a' :: 'y' :: '-' :: d) = false
  simp only [contains_cons, arrMark_eq, List.isPrefixOf]
  rw [arrMark_eq] at hd
  simpa using hd

/-! ## the theorem -/

/-- **`_dict_array_comp` recovers key and flags from what `_dict_dearray_decomp` wrote**, for
every key containing neither marker — keys ending with underscores included — and every dtype
name not containing `__array-`. -/
theorem unflag_flag (k : Str) (cplx : Bool) (arr : Option Str)
    (hk1 : contains arrMark k = false) (hk2 : contains cplxMark k = false)
    (hd : ∀ d, arr = some d → contains arrMark d = false) :
    unflagKey (flagKey k cplx arr) = (k, cplx, arr) := by
  have hrem : removeAll cplxMark (k ++ cplxMark) = k :=
    removeAll_append_self cplxMark k cplxMark_ne (noOccBefore_of _ _ hk2 cplx_noBorder)
  have hcc : contains cplxMark (k ++ cplxMark) = true := by
    have := contains_append_self cplxMark k []
    simpa using this
  have hac : contains arrMark (k ++ cplxMark) = false :=
    contains_append_false arrMark k cplxMark hk1 arr_notin_cplx arr_noStraddle_cplx
  cases arr with
  | none =>
    cases cplx with
    | false => simp [unflagKey, flagKey, hk1, hk2]
    | true => simp [unflagKey, flagKey, hac, hcc, hrem]
  | some d =>
    have hdd := hd d rfl
    have hlater := arr_later d hdd
    cases cplx with
    | false =>
      have h1 : contains arrMark (k ++ (arrMark ++ d)) = true := contains_append_self _ _ _
      have h2 := rsplit1_append arrMark k d arrMark_ne hlater
      simp [unflagKey, flagKey, List.append_assoc, h1, h2, hk2]
    | true =>
      have h1 : contains arrMark ((k ++ cplxMark) ++ (arrMark ++ d)) = true :=
        contains_append_self _ _ _
      have h2 := rsplit1_append arrMark (k ++ cplxMark) d arrMark_ne hlater
      simp [unflagKey, flagKey, List.append_assoc] at h1 h2 ⊢
      simp [h1, h2, hcc, hrem]

/-- non-vacuity, and the case of the repaired defect: keys ending with underscores -/
example : unflagKey (flagKey "x_".toList false (some "float64".toList))
    = ("x_".toList, false, some "float64".toList) := by decide +kernel
example : unflagKey (flagKey "_".toList true (some "float64".toList))
    = ("_".toList, true, some "float64".toList) := by decide +kernel

/-- the hypotheses are needed: a key that contains a marker is not recovered (a real value
stored under `a__complex` is read back as the complex entry `a`) -/
theorem marker_in_key_is_misread :
    unflagKey (flagKey "a__complex".toList false none) ≠ ("a__complex".toList, false, none) := by
  decide +kernel

end JKey

/-! ## array shapes through JSON -/
namespace JShape

/-- **what `.json` does to the shape of an array**: it is cut after the first zero-length axis -/
theorem shapeOf_nest : ∀ s : List Nat, shapeOf (nest s) = cut s
  | [] => rfl
  | 0 :: r => rfl
  | (n + 1) :: r => by
    simp only [nest, List.replicate_succ, shapeOf, cut, List.length_replicate]
    rw [shapeOf_nest r]

/-- shapes without a zero-length axis before the last one survive … -/
theorem roundtrip (s : List Nat) (h : cut s = s) : shapeOf (nest s) = s := by
  rw [shapeOf_nest, h]

/-- … `(0, 3)` and `(2, 0, 3)` do not (known finding `json-empty-array-shape`) -/
theorem empty_array_shape_lost :
    shapeOf (nest [0, 3]) = [0] ∧ shapeOf (nest [2, 0, 3]) = [2, 0] := by
  constructor <;> rfl

end JShape

