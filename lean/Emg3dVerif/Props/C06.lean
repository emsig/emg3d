import Emg3dVerif.Props.Coercive
set_option linter.unusedSectionVars false
/-!
# C06 (structural part) — the multigrid call is a stationary *linear* iteration

What can be proved about "multigrid converges at a grid-size-independent rate": not the rate
(a quantitative statement of numerical analysis, measured by `harness/c06.py`), but that the
notion is well defined for this code:

* `runTrace_add`: one complete call is additive in (source, start field), for every event
  trace — provided every block system met is solved (flags; non-singularity is proved for
  physical models in `Coercive.lean`);
* `mg_error_propagation`: started from `e* + d` with `e*` the exact solution of the system
  with source `s`, the call returns `e* +` (what it returns for the error `d` with **zero
  source**): the error after a cycle depends on the error before, the grid, the model and
  the cycle parameters only — not on the source.  "Reduction factor per cycle" is therefore a
  property of (grid, model, cycle), which is what the measurement compares across grid sizes;
* with `mgRun_fixed_phys` and `solution_unique_phys` (Coercive): the limit, if the iteration
  converges, is *the* solution.
-/
namespace Emg
open MGH
variable {K : Type} [Field K] [DecidableEq K]

def Lvl.add (a b : Lvl K) : Lvl K := { g := a.g, m := a.m, s := a.s.add b.s, e := a.e.add b.e }

theorem EF.add_ext (a b c : EF K) (h : ∀ d, c.get d = a.get d + b.get d) : c = a.add b :=
  EF.ext_get _ _ fun d => by rw [h d, EF.get_add]

theorem zero_add_zero : (zeroEF : EF K).add zeroEF = zeroEF :=
  EF.ext_get _ _ fun d => by rw [EF.get_add, zeroEF_get]; ring

theorem add_zeroEF (a : EF K) : a.add zeroEF = a :=
  EF.ext_get _ _ fun d => by rw [EF.get_add, zeroEF_get]; ring

theorem residual_add (g : Grid K) (m : VM K) (s1 s2 e1 e2 : EF K) :
    residual g m (s1.add s2) (e1.add e2) = (residual g m s1 e1).add (residual g m s2 e2) := by
  simp only [residual_eq]
  apply EF.add_ext
  intro d
  simp only [EF.get_minus, EF.get_add]
  have := amatAt_add g m e1 e2 d
  unfold amatAt at this
  rw [this]; ring

theorem R1_add (mode : Mode) (h : ℕ → K) (n : ℕ) (r1 r2 : ℕ → K) (I : ℕ) :
    R1 mode h n (fun i => r1 i + r2 i) I = R1 mode h n r1 I + R1 mode h n r2 I := by
  cases mode <;> simp only [R1] <;> ring

theorem R3_add (mx my mz : Mode) (g : Grid K) (r1 r2 : F3 K) (I J L : ℕ) :
    R3 mx my mz g (fun i j k => r1 i j k + r2 i j k) I J L
      = R3 mx my mz g r1 I J L + R3 mx my mz g r2 I J L := by
  simp only [R3, R1_add]

theorem restrict_add (sc : ℕ) (g : Grid K) (a b : EF K) :
    restrict sc g (a.add b) = (restrict sc g a).add (restrict sc g b) := by
  apply EF.add_ext
  intro d
  obtain ⟨c, i, j, k⟩ := d
  cases c <;> simp only [EF.get, restrict, EF.add, R3_add, ← ite_add_zero]

theorem P1_add (mode : Mode) (h : ℕ → K) (c1 c2 : ℕ → K) (i : ℕ) :
    P1 mode h (fun I => c1 I + c2 I) i = P1 mode h c1 i + P1 mode h c2 i := by
  cases mode <;> simp only [P1]
  · split <;> ring

theorem P3_add (mx my mz : Mode) (g : Grid K) (c1 c2 : F3 K) (i j k : ℕ) :
    P3 mx my mz g (fun I J L => c1 I J L + c2 I J L) i j k
      = P3 mx my mz g c1 i j k + P3 mx my mz g c2 i j k := by
  simp only [P3, P1_add]

theorem prolong_add (sc : ℕ) (g : Grid K) (e1 e2 c1 c2 : EF K) :
    prolong sc g (e1.add e2) (c1.add c2) = (prolong sc g e1 c1).add (prolong sc g e2 c2) := by
  apply EF.add_ext
  intro d
  obtain ⟨c, i, j, k⟩ := d
  cases c <;> simp only [EF.get, prolong, EF.add, P3_add] <;> split <;> ring

theorem smoothingC_add (g : Grid K) (m : VM K) (s1 s2 e1 e2 : EF K) (nu clr : ℕ)
    (hinj : AllInj g m)
    (h1 : (smoothingC g m s1 e1 nu clr).2 = true) (h2 : (smoothingC g m s2 e2 nu clr).2 = true)
    (h12 : (smoothingC g m (s1.add s2) (e1.add e2) nu clr).2 = true) :
    (smoothingC g m (s1.add s2) (e1.add e2) nu clr).1
      = (smoothingC g m s1 e1 nu clr).1.add (smoothingC g m s2 e2 nu clr).1 :=
  relaxAll_add g m s1 s2 _ (hinj.smoothingC nu clr) e1 e2 true true true h1 h2 h12

theorem coarseLvl_add (csc : ℕ) (a b : Lvl K) (hg : a.g = b.g) (hm : a.m = b.m) :
    coarseLvl csc (a.add b) = (coarseLvl csc a).add (coarseLvl csc b) := by
  cases a with | mk ag am as ae =>
  cases b with | mk bg bm bs be =>
  simp only at hg hm
  subst hg; subst hm
  simp only [coarseLvl, Lvl.add, matEF_eq, residual_add, restrict_add, zero_add_zero]

/-- three stacks in step: same grids and models, the third the sum of the first two -/
inductive Rel (g0 : Grid K) (m0 : VM K) : List (Lvl K) → List (Lvl K) → List (Lvl K) → Prop
  | nil : Rel g0 m0 [] [] []
  | cons {a b : Lvl K} {A B C : List (Lvl K)} :
      a.g = b.g → a.m = b.m → Reach g0 m0 a.g a.m → Rel g0 m0 A B C →
      Rel g0 m0 (a :: A) (b :: B) (a.add b :: C)

theorem step_flag (st : List (Lvl K) × Bool) (ev : Ev) (h : (step st ev).2 = true) :
    st.2 = true := by
  obtain ⟨stack, ok⟩ := st
  cases ev with
  | enter a b c => cases stack <;> exact h
  | cycleEnd a b c => cases stack <;> exact h
  | smooth lev sh nu clr =>
    cases stack with
    | nil => exact h
    | cons l ls =>
      simp only [step, Bool.and_eq_true] at h
      exact h.1
  | restrict lev sh csc cs => cases stack <;> exact h
  | prolong lev sh csc =>
    cases stack with
    | nil => exact h
    | cons c ls => cases ls <;> exact h

theorem runTrace_flag (evs : List Ev) (st : List (Lvl K) × Bool)
    (h : (runTrace st evs).2 = true) : st.2 = true := by
  by_contra hst
  exact runTrace_preserves (fun st => st.2 ≠ true) (fun st ev hs hf => hs (step_flag st ev hf))
    evs st hst h

theorem step_add (g0 : Grid K) (m0 : VM K) (hInj : ∀ g m, Reach g0 m0 g m → AllInj g m)
    (A B C : List (Lvl K)) (o1 o2 o3 : Bool) (h : Rel g0 m0 A B C) (ev : Ev)
    (f1 : (step (A, o1) ev).2 = true) (f2 : (step (B, o2) ev).2 = true)
    (f3 : (step (C, o3) ev).2 = true) :
    Rel g0 m0 (step (A, o1) ev).1 (step (B, o2) ev).1 (step (C, o3) ev).1 := by
  cases ev with
  | enter a b c =>
    cases h with
    | nil => exact Rel.nil
    | cons h1 h2 h3 h4 => exact Rel.cons h1 h2 h3 h4
  | cycleEnd a b c =>
    cases h with
    | nil => exact Rel.nil
    | cons h1 h2 h3 h4 => exact Rel.cons h1 h2 h3 h4
  | smooth lev sh nu clr =>
    cases h with
    | nil => exact Rel.nil
    | @cons a b A' B' C' hg hm hr hrest =>
      simp only [step, Bool.and_eq_true] at f1 f2 f3 ⊢
      have key := smoothingC_add a.g a.m a.s b.s a.e b.e nu clr (hInj _ _ hr) f1.2
        (by rw [hg, hm]; exact f2.2) f3.2
      have : ({ (a.add b) with e := (smoothingC (a.add b).g (a.add b).m (a.add b).s (a.add b).e nu clr).1 } : Lvl K)
          = Lvl.add { a with e := (smoothingC a.g a.m a.s a.e nu clr).1 }
              { b with e := (smoothingC b.g b.m b.s b.e nu clr).1 } := by
        simp only [Lvl.add] at key ⊢
        rw [key, hg, hm]
      rw [this]
      exact Rel.cons hg hm hr hrest
  | restrict lev sh csc cs =>
    cases h with
    | nil => exact Rel.nil
    | @cons a b A' B' C' hg hm hr hrest =>
      simp only [step]
      rw [coarseLvl_add csc a b hg hm]
      refine Rel.cons ?_ ?_ (Reach.step csc hr) (Rel.cons hg hm hr hrest)
      · simp only [coarseLvl, hg]
      · simp only [coarseLvl, hg, hm]
  | prolong lev sh csc =>
    cases h with
    | nil => exact Rel.nil
    | @cons c1 c2 A' B' C' hg hm hr hrest =>
      cases hrest with
      | nil => exact Rel.cons hg hm hr Rel.nil
      | @cons a b A'' B'' C'' hg' hm' hr' hrest' =>
        simp only [step]
        have : ({ (a.add b) with e := matEF (a.add b).g (prolong csc (a.add b).g (a.add b).e (c1.add c2).e) } : Lvl K)
            = Lvl.add { a with e := matEF a.g (prolong csc a.g a.e c1.e) }
                { b with e := matEF b.g (prolong csc b.g b.e c2.e) } := by
          simp only [Lvl.add, matEF_eq, prolong_add, hg']
        rw [this]
        exact Rel.cons hg' hm' hr' hrest'

/-- **One complete multigrid call is additive in (source, start field)**, for every trace,
whenever all block systems met are solved. -/
theorem runTrace_add (g0 : Grid K) (m0 : VM K) (hInj : ∀ g m, Reach g0 m0 g m → AllInj g m)
    (evs : List Ev) : ∀ (A B C : List (Lvl K)) (o1 o2 o3 : Bool), Rel g0 m0 A B C →
    (runTrace (A, o1) evs).2 = true → (runTrace (B, o2) evs).2 = true →
    (runTrace (C, o3) evs).2 = true →
    Rel g0 m0 (runTrace (A, o1) evs).1 (runTrace (B, o2) evs).1 (runTrace (C, o3) evs).1 := by
  induction evs with
  | nil => intro A B C o1 o2 o3 h _ _ _; exact h
  | cons ev evs ih =>
    intro A B C o1 o2 o3 h f1 f2 f3
    simp only [runTrace, List.foldl_cons] at f1 f2 f3 ⊢
    have g1 := runTrace_flag evs _ f1
    have g2 := runTrace_flag evs _ f2
    have g3 := runTrace_flag evs _ f3
    have hs := step_add g0 m0 hInj A B C o1 o2 o3 h ev g1 g2 g3
    exact ih _ _ _ _ _ _ hs f1 f2 f3

/-- **Error propagation is independent of the source.**  `l0` holds an exact solution `e*` of
its system; started from `e* + d`, the call returns (level by level of whatever is left on the
stack) the sum of what it returns for `(s, e*)` — which is `(s, e*)` itself by
`mgRun_fixed` — and what it returns for the error `d` with zero source. -/
theorem mg_error_propagation (r : Run) (l0 : Lvl K) (d : EF K)
    (hInj : ∀ g m, Reach l0.g l0.m g m → AllInj g m)
    (f1 : (mgRun r l0).2 = true)
    (f2 : (mgRun r { l0 with s := zeroEF, e := d }).2 = true)
    (f3 : (mgRun r { l0 with e := l0.e.add d }).2 = true) :
    Rel l0.g l0.m (mgRun r l0).1 (mgRun r { l0 with s := zeroEF, e := d }).1
      (mgRun r { l0 with e := l0.e.add d }).1 := by
  have hrel : Rel l0.g l0.m [l0] [{ l0 with s := zeroEF, e := d }]
      [{ l0 with e := l0.e.add d }] := by
    have : ({ l0 with e := l0.e.add d } : Lvl K) = l0.add { l0 with s := zeroEF, e := d } := by
      simp only [Lvl.add, add_zeroEF]
    rw [this]
    exact Rel.cons rfl rfl Reach.base Rel.nil
  exact runTrace_add l0.g l0.m hInj (mgTrace r) _ _ _ true true true hrel f1 f2 f3

/-- for physical models the non-singularity hypothesis is discharged -/
theorem mg_error_propagation_phys (r : Run) (l0 : Lvl ℂ) (d : EF ℂ) {a b : ℝ}
    (h : Phys l0.g l0.m a b)
    (f1 : (mgRun r l0).2 = true)
    (f2 : (mgRun r { l0 with s := zeroEF, e := d }).2 = true)
    (f3 : (mgRun r { l0 with e := l0.e.add d }).2 = true) :
    Rel l0.g l0.m (mgRun r l0).1 (mgRun r { l0 with s := zeroEF, e := d }).1
      (mgRun r { l0 with e := l0.e.add d }).1 :=
  mg_error_propagation r l0 d (fun _ _ hr => allInj_phys (h.reach hr)) f1 f2 f3

end Emg
