import Emg3dVerif.Lemmas.Gridding
import Emg3dVerif.Lemmas.Hier
/-!
# C16 — automatic gridding meets its stated postconditions or fails loudly

Theorems about the model `Grd` (`Model/Gridding.lean`) of `emg3d.meshes._stretch`,
`origin_and_widths`, `_seasurface`, `good_mg_cell_nr`, over an arbitrary linearly ordered field.
-/
set_option linter.unusedSectionVars false
namespace Grd
variable {K : Type} [Field K] [LinearOrder K] [IsStrictOrderedRing K]

/-- `use_up` hands the `rem` unused cells to the two sides, the odd one to the right -/
theorem useUp_split (up : Bool) (a b rem : Nat) :
    a ≤ (if up then a + rem / 2 else a) ∧ b ≤ (if up then b + (rem + 1) / 2 else b) ∧
    (if up then a + rem / 2 else a) + (if up then b + (rem + 1) / 2 else b)
      + (if up then 0 else rem) = a + b + rem := by
  cases up
  · exact ⟨Nat.le_refl _, Nat.le_refl _, rfl⟩
  · simp only [if_true]; omega

theorem head_pos {ws : List K} (hne : ws ≠ []) (hpos : ∀ w ∈ ws, 0 < w) :
    0 < ws.head?.getD 0 := by
  cases ws with
  | nil => exact absurd rfl hne
  | cons a t => simpa using hpos a (by simp)

theorem last_pos {ws : List K} (hne : ws ≠ []) (hpos : ∀ w ∈ ws, 0 < w) :
    0 < ws.getLast?.getD 0 := by
  have := List.getLast?_eq_some_getLast hne
  rw [this]
  simpa using hpos _ (List.getLast_mem hne)

section stretch
variable {e0 e1 : K} {ws : List K} {α : K} {nx : Nat} {d0 d1 : K} {up : Bool} {r : SRes K}

/-- what a successful `_stretch` returns: `r.nl`, `r.nr` geometric cells on the two sides, at least
as many as the domain needs -/
theorem stretch_form (h : stretch e0 e1 ws α nx d0 d1 up = some r) :
    (∃ nl nr, nl ≤ r.nl ∧ nr ≤ r.nr ∧ e0 - sum (geo (ws.head?.getD 0) α nl) ≤ d0 ∧
      d1 ≤ e1 + sum (geo (ws.getLast?.getD 0) α nr)) ∧
    ws.length + r.nl + r.nr + r.remain = nx ∧ (up = true → r.remain = 0) ∧
    r.x0 = e0 - sum (geo (ws.head?.getD 0) α r.nl) ∧
    r.x1 = e1 + sum (geo (ws.getLast?.getD 0) α r.nr) ∧
    r.ws = (geo (ws.head?.getD 0) α r.nl).reverse ++ ws ++ geo (ws.getLast?.getD 0) α r.nr := by
  unfold stretch at h
  simp only at h
  split at h
  · rename_i hc
    obtain ⟨hc1, hc2, hc3⟩ := hc
    cases h
    generalize nLeft e0 d0 (geo (ws.head?.getD 0) α nx) = nl at *
    generalize nRight e1 d1 (geo (ws.getLast?.getD 0) α nx) = nr at *
    obtain ⟨a1, a2, a3⟩ := useUp_split up nl nr (nx - (ws.length + nl + nr))
    have hu : up = true → (if up = true then 0 else nx - (ws.length + nl + nr)) = 0 :=
      fun h => if_pos h
    simp only
    generalize (if up = true then nl + (nx - (ws.length + nl + nr)) / 2 else nl) = nl' at *
    generalize (if up = true then nr + (nx - (ws.length + nl + nr) + 1) / 2 else nr) = nr' at *
    generalize (if up = true then 0 else nx - (ws.length + nl + nr)) = rm at *
    have hl : nl' ≤ nx := by omega
    have hr : nr' ≤ nx := by omega
    rw [geo_take, Nat.min_eq_left (a1.trans hl)] at hc1
    rw [geo_take, Nat.min_eq_left (a2.trans hr)] at hc2
    rw [geo_take, geo_take, Nat.min_eq_left hl, Nat.min_eq_left hr]
    exact ⟨⟨nl, nr, a1, a2, hc1, hc2⟩, by omega, hu, rfl, rfl, rfl⟩
  · cases h

/-- **cell count**: the returned widths use `nx − remain` cells; all `nx` with `use_up` -/
theorem stretch_length (h : stretch e0 e1 ws α nx d0 d1 up = some r) :
    r.ws.length + r.remain = nx ∧ (up = true → r.ws.length = nx) := by
  obtain ⟨-, hlen, hup, -, -, hws⟩ := stretch_form h
  have : r.ws.length = ws.length + r.nl + r.nr := by
    rw [hws, List.length_append, List.length_append, List.length_reverse, geo_length, geo_length]
    omega
  exact ⟨by omega, fun hu => by have := hup hu; omega⟩

/-- **coverage**: a returned grid reaches the domain on both sides -/
theorem stretch_covers (hα : 0 < α) (hne : ws ≠ []) (hpos : ∀ w ∈ ws, 0 < w)
    (h : stretch e0 e1 ws α nx d0 d1 up = some r) : r.x0 ≤ d0 ∧ d1 ≤ r.x1 := by
  obtain ⟨⟨nl, nr, hl, hr, h0, h1⟩, -, -, hx0, hx1, -⟩ := stretch_form h
  rw [hx0, hx1]
  exact ⟨(sub_le_sub_left (sum_geo_mono (head_pos hne hpos) hα hl) _).trans h0,
    h1.trans (add_le_add_right (sum_geo_mono (last_pos hne hpos) hα hr) _)⟩

/-- the grid only grows: the centre part stays inside -/
theorem stretch_outward (hα : 0 < α) (hne : ws ≠ []) (hpos : ∀ w ∈ ws, 0 < w)
    (h : stretch e0 e1 ws α nx d0 d1 up = some r) : r.x0 ≤ e0 ∧ e1 ≤ r.x1 := by
  obtain ⟨-, -, -, hx0, hx1, -⟩ := stretch_form h
  rw [hx0, hx1]
  exact ⟨sub_le_self _ (sum_geo_mono (head_pos hne hpos) hα (Nat.zero_le _)),
    le_add_of_nonneg_right (sum_geo_mono (last_pos hne hpos) hα (Nat.zero_le _))⟩

/-- **extent**: origin plus the sum of the widths is the upper end -/
theorem stretch_extent (he : e1 = e0 + sum ws)
    (h : stretch e0 e1 ws α nx d0 d1 up = some r) : r.x1 = r.x0 + sum r.ws := by
  obtain ⟨-, -, -, hx0, hx1, hws⟩ := stretch_form h
  rw [hx0, hx1, hws, sum_append, sum_append, sum_reverse, he]
  ring

/-- **positivity** of all widths -/
theorem stretch_pos (hα : 0 < α) (hne : ws ≠ []) (hpos : ∀ w ∈ ws, 0 < w)
    (h : stretch e0 e1 ws α nx d0 d1 up = some r) : ∀ w ∈ r.ws, 0 < w := by
  obtain ⟨-, -, -, -, -, hws⟩ := stretch_form h
  intro w hw
  rw [hws] at hw
  simp only [List.mem_append, List.mem_reverse] at hw
  rcases hw with (hw | hw) | hw
  · exact geo_pos (head_pos hne hpos) hα _ w hw
  · exact hpos w hw
  · exact geo_pos (last_pos hne hpos) hα _ w hw

theorem stretch_ne_nil (hne : ws ≠ []) (h : stretch e0 e1 ws α nx d0 d1 up = some r) :
    r.ws ≠ [] := by
  obtain ⟨-, -, -, -, -, hws⟩ := stretch_form h
  rw [hws]; simp [hne]

/-- **stretching bound**: if neighbouring widths of the centre part differ by at most the factor
`β` and `1 ≤ α ≤ β`, the same holds for the whole returned grid (the new cells grow exactly by
`α`, also across the junctions) -/
theorem stretch_bounded {β : K} (h1 : 1 ≤ α) (h2 : α ≤ β) (hne : ws ≠ [])
    (hpos : ∀ w ∈ ws, 0 < w) (hc : ws.IsChain (Within β))
    (h : stretch e0 e1 ws α nx d0 d1 up = some r) : r.ws.IsChain (Within β) := by
  obtain ⟨-, -, -, -, -, hws⟩ := stretch_form h
  have hh := head_pos hne hpos
  have hl := last_pos hne hpos
  rw [hws]
  refine List.IsChain.append (List.IsChain.append ?_ hc ?_) (geo_chain hl h1 h2 _) ?_
  · exact isChain_reverse_symm (fun a b => Within.symm) (geo_chain hh h1 h2 _)
  · intro x hx y hy
    rw [List.getLast?_reverse] at hx
    rw [geo_head _ _ _ x hx, ← show ws.head?.getD 0 = y by rw [Option.mem_def.1 hy]; rfl]
    exact (within_mul hh h1 h2).symm
  · intro x hx y hy
    rw [List.getLast?_append_of_ne_nil _ hne] at hx
    rw [geo_head _ _ _ y hy, ← show ws.getLast?.getD 0 = x by rw [Option.mem_def.1 hx]; rfl]
    exact within_mul hl h1 h2

/-- **nodes are preserved**: every node of the centre part (provided vector, centre, sea surface)
is a node of the returned grid -/
theorem stretch_nodes (h : stretch e0 e1 ws α nx d0 d1 up = some r) :
    ∀ x ∈ nodes e0 ws, x ∈ nodes r.x0 r.ws := by
  obtain ⟨-, -, -, hx0, -, hws⟩ := stretch_form h
  intro x hx
  rw [hws, List.append_assoc]
  apply mem_nodes_append_right
  apply mem_nodes_append_left
  have : r.x0 + sum (geo (ws.head?.getD 0) α r.nl).reverse = e0 := by
    rw [hx0, sum_reverse]; ring
  rw [this]
  exact hx

end stretch

/-! ## the search: three nested "first success wins" loops, each a `List.findSome?` -/
section search
variable {e0 e1 : K} {ws : List K} {d0 d1 c0 c1 : K} {caOf : K → List K}

theorem searchCa_eq (sd : SRes K) (nx : Nat) (l : List K) :
    searchCa sd nx c0 c1 l
      = l.findSome? fun ca => (stretch sd.x0 sd.x1 sd.ws ca nx c0 c1 true).map (ca, ·) := by
  induction l with
  | nil => rfl
  | cons a t ih =>
    rw [searchCa, List.findSome?_cons, ← ih]
    cases stretch sd.x0 sd.x1 sd.ws a nx c0 c1 true <;> rfl

theorem searchSa_eq (nx : Nat) (l : List K) :
    searchSa e0 e1 ws nx d0 d1 c0 c1 caOf l
      = l.findSome? fun sa => (stretch e0 e1 ws sa nx d0 d1 false).bind fun sd =>
          (searchCa sd nx c0 c1 (caOf sa)).map fun p => (sa, sd, p.1, p.2) := by
  induction l with
  | nil => rfl
  | cons a t ih =>
    rw [searchSa, List.findSome?_cons, ← ih]
    cases stretch e0 e1 ws a nx d0 d1 false with
    | none => rfl
    | some sd => simp only [Option.bind_some]; cases searchCa sd nx c0 c1 (caOf a) <;> rfl

theorem searchNx_eq (saL : List K) (cn : List Nat) :
    searchNx e0 e1 ws d0 d1 c0 c1 saL caOf cn
      = cn.findSome? fun nx => (searchSa e0 e1 ws nx d0 d1 c0 c1 caOf saL).map fun p =>
          ⟨nx, p.1, p.2.2.1, p.2.1, p.2.2.2⟩ := by
  induction cn with
  | nil => rfl
  | cons n t ih =>
    rw [searchNx, List.findSome?_cons, ← ih]
    cases searchSa e0 e1 ws n d0 d1 c0 c1 caOf saL <;> rfl

/-- **what a found grid is**: the cell number is one of the permitted ones, the two stretchings
are candidates, and the grid is the result of the two `_stretch` calls -/
theorem searchNx_some {saL : List K} {cn : List Nat} {f : Found K}
    (h : searchNx e0 e1 ws d0 d1 c0 c1 saL caOf cn = some f) :
    f.nx ∈ cn ∧ f.sa ∈ saL ∧ f.ca ∈ caOf f.sa ∧
      stretch e0 e1 ws f.sa f.nx d0 d1 false = some f.sd ∧
      stretch f.sd.x0 f.sd.x1 f.sd.ws f.ca f.nx c0 c1 true = some f.res := by
  rw [searchNx_eq] at h
  obtain ⟨nx, hnx, h1⟩ := List.exists_of_findSome?_eq_some h
  obtain ⟨p, h2, rfl⟩ := Option.map_eq_some_iff.1 h1
  rw [searchSa_eq] at h2
  obtain ⟨sa, hsa, h3⟩ := List.exists_of_findSome?_eq_some h2
  obtain ⟨sd, hsd, h4⟩ := Option.bind_eq_some_iff.1 h3
  obtain ⟨q, h5, rfl⟩ := Option.map_eq_some_iff.1 h4
  rw [searchCa_eq] at h5
  obtain ⟨ca, hca, h6⟩ := List.exists_of_findSome?_eq_some h5
  obtain ⟨res, h7, rfl⟩ := Option.map_eq_some_iff.1 h6
  exact ⟨hnx, hsa, hca, hsd, h7⟩

/-- **fails loudly exactly when no grid exists**: the search returns nothing iff no permitted
cell number admits a pair of candidate stretchings whose two `_stretch` steps both succeed -/
theorem search_none_iff {saL : List K} {cn : List Nat} :
    searchNx e0 e1 ws d0 d1 c0 c1 saL caOf cn = none ↔
      ∀ nx ∈ cn, ∀ sa ∈ saL, ∀ sd, stretch e0 e1 ws sa nx d0 d1 false = some sd →
        ∀ ca ∈ caOf sa, stretch sd.x0 sd.x1 sd.ws ca nx c0 c1 true = none := by
  simp only [searchNx_eq, searchSa_eq, searchCa_eq, List.findSome?_eq_none_iff,
    Option.map_eq_none_iff, Option.bind_eq_none_iff]

/-- **postconditions of a found grid** (`β` = the larger permitted stretching factor, or the
ratio bound of a provided centre part if that is larger) -/
theorem search_post {β : K} {saL : List K} {cn : List Nat} {f : Found K}
    (hne : ws ≠ []) (hpos : ∀ w ∈ ws, 0 < w) (he : e1 = e0 + sum ws)
    (hc : ws.IsChain (Within β))
    (hsa : ∀ sa ∈ saL, 1 ≤ sa ∧ sa ≤ β) (hca : ∀ sa ∈ saL, ∀ ca ∈ caOf sa, 1 ≤ ca ∧ ca ≤ β)
    (h : searchNx e0 e1 ws d0 d1 c0 c1 saL caOf cn = some f) :
    f.nx ∈ cn ∧ f.res.ws.length = f.nx ∧
    (∀ w ∈ f.res.ws, 0 < w) ∧
    f.res.x0 ≤ d0 ∧ d1 ≤ f.res.x1 ∧ f.res.x0 ≤ c0 ∧ c1 ≤ f.res.x1 ∧
    f.res.x1 = f.res.x0 + sum f.res.ws ∧
    f.res.ws.IsChain (Within β) ∧
    (∀ x ∈ nodes e0 ws, x ∈ nodes f.res.x0 f.res.ws) := by
  obtain ⟨m1, m2, m3, s1, s2⟩ := searchNx_some h
  obtain ⟨a1, a2⟩ := hsa _ m2
  obtain ⟨b1, b2⟩ := hca _ m2 _ m3
  have hα1 : 0 < f.sa := lt_of_lt_of_le one_pos a1
  have hα2 : 0 < f.ca := lt_of_lt_of_le one_pos b1
  have sdne := stretch_ne_nil hne s1
  have sdpos := stretch_pos hα1 hne hpos s1
  have sdext := stretch_extent he s1
  have cov1 := stretch_covers hα1 hne hpos s1
  have cov2 := stretch_covers hα2 sdne sdpos s2
  have out2 := stretch_outward hα2 sdne sdpos s2
  refine ⟨m1, (stretch_length s2).2 rfl, stretch_pos hα2 sdne sdpos s2, out2.1.trans cov1.1,
    cov1.2.trans out2.2, cov2.1, cov2.2, stretch_extent sdext s2, ?_, ?_⟩
  · exact stretch_bounded b1 b2 sdne sdpos (stretch_bounded a1 a2 hne hpos hc s1) s2
  · intro x hx
    exact stretch_nodes s2 x (stretch_nodes s1 x hx)

end search

/-! ## pre-processing -/

/-- in a sorted list, the entries from `d0` upwards survive dropping everything before an entry
`≤ d0` (an entry equal to a dropped one is that kept entry) -/
theorem mem_drop_of_sorted {v : List K} (hs : v.Pairwise (· ≤ ·)) {d0 : K} {k : Nat}
    (hk : k ∈ (List.range v.length).filter (fun i => decide (v.getD i 0 ≤ d0))) :
    ∀ x ∈ v, d0 ≤ x → x ∈ v.drop k := by
  intro x hx hd
  obtain ⟨hk, hv⟩ := List.mem_filter.1 hk
  rw [List.mem_range] at hk
  rw [List.getD_eq_getElem?_getD, List.getElem?_eq_getElem hk, Option.getD_some,
    decide_eq_true_eq] at hv
  have hkm : v[k] ∈ v.drop k := by rw [List.drop_eq_getElem_cons hk]; exact List.mem_cons_self ..
  have hs' := List.pairwise_append.1 ((List.take_append_drop k v).symm ▸ hs)
  rcases List.mem_append.1 ((List.take_append_drop k v).symm ▸ hx) with h | h
  · rwa [le_antisymm (hs'.2.2 x h _ hkm) (hv.trans hd)]
  · exact h

theorem mem_take_of_sorted {v : List K} (hs : v.Pairwise (· ≤ ·)) {d1 : K} {i m : Nat}
    (hi : i ∈ (List.range v.length).filter (fun i => decide (d1 ≤ v.getD i 0))) (him : i < m) :
    ∀ x ∈ v, x ≤ d1 → x ∈ v.take m := by
  intro x hx hd
  obtain ⟨hi, hv⟩ := List.mem_filter.1 hi
  rw [List.mem_range] at hi
  rw [List.getD_eq_getElem?_getD, List.getElem?_eq_getElem hi, Option.getD_some,
    decide_eq_true_eq] at hv
  have him' : v[i] ∈ v.take m := List.mem_take_iff_getElem.2 ⟨i, by omega, rfl⟩
  have hs' := List.pairwise_append.1 ((List.take_append_drop m v).symm ▸ hs)
  rcases List.mem_append.1 ((List.take_append_drop m v).symm ▸ hx) with h | h
  · exact h
  · rwa [le_antisymm (hd.trans hv) (hs'.2.2 _ him' x h)]
/-- **nodes of a provided vector inside the survey domain survive the cut** -/
theorem cutVector_keeps {v v' : List K} {d0 d1 : K} (hs : v.Pairwise (· ≤ ·))
    (h : cutVector v d0 d1 = some v') :
    (∀ x ∈ v, d0 ≤ x → x ≤ d1 → x ∈ v') ∧ 3 ≤ v'.length ∧ v'.Pairwise (· ≤ ·) ∧
      (∀ x ∈ v', x ∈ v) := by
  unfold cutVector at h
  simp only at h
  set iLo := (List.range v.length).filter (fun i => decide (v.getD i 0 ≤ d0)) with hiLo
  set v1 := if iLo.length > 1 then v.drop (iLo.getLast?.getD 0) else v with hv1
  set iHi := (List.range v1.length).filter (fun i => decide (d1 ≤ v1.getD i 0)) with hiHi
  set v2 := if iHi.length > 1 then v1.take (iHi.getD 1 0) else v1 with hv2
  split at h
  · cases h
  · rename_i hlen
    injection h with h
    subst h
    -- each cut keeps a sublist, and loses nothing on its side of the domain
    have k1 : (∀ x ∈ v, d0 ≤ x → x ∈ v1) ∧ v1.Sublist v := by
      rw [hv1]
      split
      · rename_i hl
        obtain ⟨k, hk⟩ : ∃ k, iLo.getLast? = some k := by
          cases hk : iLo.getLast? with
          | none => rw [List.getLast?_eq_none_iff.1 hk] at hl; cases hl
          | some k => exact ⟨k, rfl⟩
        rw [hk]
        exact ⟨mem_drop_of_sorted hs (List.mem_of_getLast? hk), List.drop_sublist _ _⟩
      · exact ⟨fun x hx _ => hx, List.Sublist.refl _⟩
    have k2 : (∀ x ∈ v1, x ≤ d1 → x ∈ v2) ∧ v2.Sublist v1 := by
      rw [hv2]
      split
      · rename_i hl
        obtain ⟨i, m, rest, hi⟩ : ∃ i m rest, iHi = i :: m :: rest := by
          match hh : iHi with
          | [] => cases hl
          | [_] => exact absurd hl (Nat.lt_irrefl 1)
          | i :: m :: rest => exact ⟨i, m, rest, rfl⟩
        have hpw : (i :: m :: rest).Pairwise (· < ·) :=
          hi ▸ List.Pairwise.filter _ List.pairwise_lt_range
        rw [hi]
        exact ⟨mem_take_of_sorted (hs.sublist k1.2)
          (show i ∈ iHi from hi ▸ List.mem_cons_self ..)
          (List.rel_of_pairwise_cons hpw (List.mem_cons_self ..)), List.take_sublist _ _⟩
      · exact ⟨fun x hx _ => hx, List.Sublist.refl _⟩
    have sub := k2.2.trans k1.2
    exact ⟨fun x hx h0 h1 => k2.1 x (k1.1 x hx h0) h1, by omega, hs.sublist sub,
      fun x hx => sub.subset hx⟩

/-- **computational domain, default**: survey domain plus `min(λ, max_buffer)` on each side -/
theorem compDomain_buffer (d0 d1 c wl wr mb : K) :
    compDomain false d0 d1 c wl wr mb = (d0 - min wl mb, d1 + min wr mb) := rfl

/-- with non-negative wavelengths and buffer it contains the survey domain -/
theorem compDomain_covers (d0 d1 c wl wr mb : K) (hl : 0 ≤ wl) (hr : 0 ≤ wr) (hm : 0 ≤ mb) :
    (compDomain false d0 d1 c wl wr mb).1 ≤ d0 ∧ d1 ≤ (compDomain false d0 d1 c wl wr mb).2 := by
  rw [compDomain_buffer]
  exact ⟨sub_le_self _ (le_min hl hm), le_add_of_nonneg_right (le_min hr hm)⟩

/-- with a full buffer `m = (2λ - a)/2` the way out and back, `(a + m) + m`, is `2λ` -/
theorem two_lambda (a w : K) (h : a ≤ 2 * w) :
    a + max 0 ((2 * w - a) / 2) + max 0 ((2 * w - a) / 2) = 2 * w := by
  rw [max_eq_right (div_nonneg (sub_nonneg.2 h) zero_le_two)]
  ring

/-- **computational domain, `lambda_from_center`**: from the centre to the boundary and back to
the end of the survey domain it is two wavelengths (when that exceeds the survey domain), capped
at `max_buffer` from the centre -/
theorem compDomain_fromCenter (d0 d1 c wl wr mb : K) (h0 : d0 ≤ c) (h1 : c ≤ d1) :
    let b0 := d0 - max 0 ((2 * wl - (c - d0)) / 2)
    let b1 := d1 + max 0 ((2 * wr - (d1 - c)) / 2)
    compDomain true d0 d1 c wl wr mb = (max b0 (c - mb), min b1 (c + mb)) ∧
    b0 ≤ d0 ∧ d1 ≤ b1 ∧
    (c - d0 ≤ 2 * wl → (c - b0) + (d0 - b0) = 2 * wl) ∧
    (d1 - c ≤ 2 * wr → (b1 - c) + (b1 - d1) = 2 * wr) := by
  intro b0 b1
  have e0 : (if d0 - c < 0 then c - d0 else d0 - c) = c - d0 := by
    split
    · rfl
    · rw [le_antisymm h0 (sub_nonneg.1 (not_lt.1 ‹_›))]
  have e1 : (if d1 - c < 0 then c - d1 else d1 - c) = d1 - c := if_neg (not_lt.2 (sub_nonneg.2 h1))
  refine ⟨by simp only [compDomain, if_true, e0, e1, b0, b1], sub_le_self _ (le_max_left ..),
    le_add_of_nonneg_right (le_max_left ..), fun h => ?_, fun h => ?_⟩
  · rw [← two_lambda _ _ h]
    simp only [b0]
    ring
  · rw [← two_lambda _ _ h]
    simp only [b1]
    ring

/-! ## sea surface -/

/-- a centre part whose upper end is `ss` has `ss` as its last node -/
theorem sea_ok {r : SeaRes K} {ss : K} (h1 : r.e1 = r.e0 + sum r.ws) (h2 : r.e1 = ss) :
    r.e1 = ss ∧ r.e1 = r.e0 + sum r.ws ∧ ss ∈ nodes r.e0 r.ws :=
  ⟨h2, h1, h2 ▸ h1 ▸ end_mem_nodes _ _⟩

/-- **sea surface within half a cell of the upper edge**: the centre cell is moved and the sea
surface becomes its upper node -/
theorem seasurface_shift_node {e0 e1 : K} {ws : List K} {center ss s0 s1 : K}
    {nOf : K → K → Nat} {amaxF : K} {frange roots : List K}
    (hclose : (if ss - e1 < 0 then e1 - ss else ss - e1) ≤ ws.head?.getD 0 / 2)
    (he : e1 = e0 + sum ws) :
    let r := seasurface false e0 e1 ws center ss s0 s1 nOf amaxF frange roots
    r.e1 = ss ∧ r.ws = ws ∧ r.e1 = r.e0 + sum r.ws ∧ ss ∈ nodes r.e0 r.ws := by
  intro r
  have hr : r = { e0 := e0 + (ss - e1), e1 := e1 + (ss - e1), ws := ws, usedRoots := 0 } :=
    if_pos ⟨rfl, hclose⟩
  obtain ⟨h1, h2, h3⟩ := sea_ok (r := r) (ss := ss) (by rw [hr, he]; ring) (by rw [hr]; ring)
  exact ⟨h1, by rw [hr], h2, h3⟩

/-- the roots handed to the model solve the geometric-sum equation of their call
(`brentq` is exact) -/
def RootsExact (hasVector : Bool) (e1 : K) (widths : List K) (center ss : K) (nOf : K → K → Nat) :
    List K → List K → Prop
  | [], _ => True
  | fact :: fs, roots =>
    let tdmin := if hasVector then widths.getLast?.getD 0 else fact * widths.head?.getD 0
    let cedge := if hasVector then e1 else center + tdmin / 2
    let delta := ss - cedge
    let n := nOf delta tdmin
    if n < 1 then RootsExact hasVector e1 widths center ss nOf fs roots
    else
      match roots with
      | [] => True
      | alph :: rs => sum (geo tdmin alph n) = delta ∧
          RootsExact hasVector e1 widths center ss nOf fs rs

/-- **sea surface by extra cells**: whatever factor and root the loop adopts, the sea surface is
the upper node of the new centre part — or nothing was adopted and the centre part is unchanged
(the case in which the code warns) -/
theorem seasurface_root_node {hasVector : Bool} {e0 e1 : K} {ws : List K} {center ss s0 s1 : K}
    {nOf : K → K → Nat} {amax : K} (he : e1 = e0 + sum ws) (frange roots : List K) (u : Nat)
    (hr : RootsExact hasVector e1 ws center ss nOf frange roots) :
    let r := seaLoop hasVector e0 e1 ws center ss s0 s1 nOf amax frange roots u
    (r.e1 = ss ∧ r.e1 = r.e0 + sum r.ws ∧ ss ∈ nodes r.e0 r.ws) ∨
      (r.e0 = e0 ∧ r.e1 = e1 ∧ r.ws = ws) := by
  induction frange generalizing roots u with
  | nil => exact .inr ⟨rfl, rfl, rfl⟩
  | cons fact fs ih =>
    simp only [seaLoop, RootsExact] at hr ⊢
    generalize htd : (if hasVector = true then ws.getLast?.getD 0 else fact * ws.head?.getD 0)
      = tdmin at hr ⊢
    generalize hce : (if hasVector = true then e1 else center + tdmin / 2) = cedge at hr ⊢
    split
    · rw [if_pos ‹_›] at hr; exact ih roots u hr
    · rw [if_neg ‹_›] at hr
      cases roots with
      | nil => exact .inr ⟨rfl, rfl, rfl⟩
      | cons alph rs =>
        simp only at hr ⊢
        split
        · -- adopted: the geometric sum fills exactly the gap `ss - cedge`
          refine .inl (sea_ok rfl ?_)
          cases hasVector
          · simp only [Bool.false_eq_true, if_false] at hce ⊢; rw [sum_cons, hr.1, ← hce]; ring
          · simp only [if_true] at hce ⊢; rw [sum_append, hr.1, ← hce, he]; ring
        · exact ih rs (u + 1) hr.2

/-! ## good multigrid cell numbers -/

/-- **permitted cell numbers**: exactly the numbers `p·2ᵏ ≤ max_nr` with `p ≤ max_lowest` one of
2, 3, 5, …, 19 and `min_div ≤ k < 30`, in ascending order without repetition -/
theorem goodMg_spec (M pl md n : Nat) :
    n ∈ goodMg M pl md ↔
      n ≤ M ∧ ∃ p ∈ [2, 3, 5, 7, 9, 11, 13, 15, 17, 19], p ≤ pl ∧ ∃ k, md ≤ k ∧ k < 30 ∧ n = p * 2 ^ k := by
  unfold goodMg
  simp only [List.mem_filter, List.mem_range, List.contains_iff_mem, List.mem_flatMap,
    List.mem_map, decide_eq_true_eq]
  constructor
  · rintro ⟨hM, p, ⟨hp, hpl⟩, k, hk, rfl⟩
    exact ⟨by omega, p, hp, hpl, md + k, by omega, by omega, rfl⟩
  · rintro ⟨hM, p, hp, hpl, k, hk1, hk2, rfl⟩
    exact ⟨by omega, p, ⟨hp, hpl⟩, k - md, by omega, by rw [Nat.add_sub_cancel' hk1]⟩

theorem goodMg_sorted (M pl md : Nat) : (goodMg M pl md).Pairwise (· < ·) := by
  unfold goodMg
  exact List.Pairwise.filter _ List.pairwise_lt_range

/-! ## `origin_and_widths` as a whole -/

theorem diffs_cons_cons (a b : K) (t : List K) : diffs (a :: b :: t) = (b - a) :: diffs (b :: t) := rfl

/-- widths of a strictly increasing node vector are positive -/
theorem diffs_pos : ∀ {v : List K}, v.Pairwise (· < ·) → ∀ w ∈ diffs v, 0 < w
  | [], _, w, hw | [_], _, w, hw => nomatch hw
  | a :: b :: t, hs, w, hw => by
    rw [diffs_cons_cons, List.mem_cons] at hw
    rcases hw with rfl | hw
    · exact sub_pos.2 (List.rel_of_pairwise_cons hs (List.mem_cons_self ..))
    · exact diffs_pos hs.of_cons w hw

/-- the widths telescope: last node = first node + their sum -/
theorem sum_diffs (a : K) : ∀ t : List K, (a :: t).getLast?.getD 0 = a + sum (diffs (a :: t))
  | [] => (add_zero a).symm
  | b :: t => by
    rw [List.getLast?_cons_cons, sum_diffs b t, diffs_cons_cons, sum_cons]
    ring

theorem diffs_ok : ∀ {v : List K}, 2 ≤ v.length →
    diffs v ≠ [] ∧ v.getLast?.getD 0 = v.head?.getD 0 + sum (diffs v)
  | a :: _ :: _, _ => ⟨List.cons_ne_nil _ _, sum_diffs a _⟩

/-- the centre part is well formed: non-empty, positive widths, end = start + Σ widths, and the
centre is a node (`center_on_edge`) or a cell centre -/
theorem centrePart_ok (vector : Option (List K)) (coe : Bool) (c dmin : K) (hd : 0 < dmin)
    (hv : ∀ v ∈ vector, v.Pairwise (· < ·) ∧ 2 ≤ v.length) :
    let cp := centrePart vector coe c dmin
    cp.2.2 ≠ [] ∧ (∀ w ∈ cp.2.2, 0 < w) ∧ cp.2.1 = cp.1 + sum cp.2.2 ∧
      (vector = none → coe = true → c ∈ nodes cp.1 cp.2.2) ∧
      (vector = none → coe = false → cp.2.2 = [dmin] ∧ c = cp.1 + dmin / 2) := by
  intro cp
  cases vector with
  | some v =>
    obtain ⟨h1, h2⟩ := hv v rfl
    obtain ⟨i1, i2⟩ := diffs_ok h2
    exact ⟨i1, diffs_pos h1, i2, (fun h => nomatch h), (fun h => nomatch h)⟩
  | none =>
  cases coe with
  | false =>
    -- one cell `[dmin]` around the centre
    refine ⟨List.cons_ne_nil _ _, fun w hw => ?_, ?_, (fun _ h => nomatch h), fun _ _ => ⟨rfl, ?_⟩⟩
    · rwa [List.mem_singleton.1 hw]
    · show c + dmin / 2 = c - dmin / 2 + (dmin + 0)
      ring
    · show c = c - dmin / 2 + dmin / 2
      ring
  | true =>
    -- two cells `[dmin, dmin]` with the centre as their common node
    refine ⟨List.cons_ne_nil _ _, fun w hw => ?_, ?_, fun _ _ => ?_, (fun _ h => nomatch h)⟩
    · rcases List.mem_pair.1 hw with rfl | rfl <;> exact hd
    · show c + dmin = c - dmin + (dmin + (dmin + 0))
      ring
    · show c ∈ [c - dmin, c - dmin + dmin, c - dmin + dmin + dmin]
      simp
/-- structure of a successful `origin_and_widths` run -/
theorem oaw_ok {nOf : K → K → Nat} {i : OawIn K} {o : OawOut K} (h : oaw nOf i = .ok o) :
    o.found = searchNx o.ce0 o.ce1 o.cws o.d0 o.d1 o.c0 o.c1 i.saL i.caOf i.cellNumbers ∧
    (o.c0, o.c1) = compDomain i.fromCenter o.d0 o.d1 i.center i.wl i.wr i.maxBuffer ∧
    (∀ d ∈ i.domain, o.d0 = d.1 ∧ d.2 ≤ o.d1) ∧
    (∀ ss ∈ i.seasurface, i.center < ss ∧ ss ≤ o.d1) := by
  unfold oaw at h
  simp only at h
  split at h
  · cases h
  · rename_i d0 d1 hdom
    split at h
    · cases h
    · rename_i d1' hss
      cases h
      -- the survey domain is only ever extended upwards, to a sea surface above the centre
      have key : d1 ≤ d1' ∧ ∀ ss ∈ i.seasurface, i.center < ss ∧ ss ≤ d1' := by
        cases hs : i.seasurface with
        | none => rw [hs] at hss; cases hss; exact ⟨le_refl _, fun _ h => nomatch h⟩
        | some ss =>
          rw [hs] at hss
          simp only at hss
          split at hss
          · cases hss
          · rename_i hc
            cases hss
            exact ⟨le_max_left _ _, fun s h => by
              cases h; exact ⟨lt_of_not_ge hc, le_max_right _ _⟩⟩
      refine ⟨rfl, rfl, fun d hd => ?_, key.2⟩
      rw [Option.mem_def.1 hd] at hdom
      cases hdom
      exact ⟨rfl, key.1⟩

/-- **C16, one direction**: whenever the model of `origin_and_widths` returns a grid, the number
of cells is one of the permitted ones, all widths are positive, the grid covers the survey domain
(extended to the sea surface) and the computational domain (survey domain plus the
wavelength-based buffer capped by `max_buffer`), origin plus widths gives the upper end,
neighbouring widths differ at most by the factor `β` that bounds the stretching candidates and the
centre part, and every node of the centre part (provided vector, centre, sea surface) is a node -/
theorem oaw_post {nOf : K → K → Nat} {i : OawIn K} {o : OawOut K} {f : Found K} {β : K}
    (h : oaw nOf i = .ok o) (hf : o.found = some f)
    (hcne : o.cws ≠ []) (hcpos : ∀ w ∈ o.cws, 0 < w) (hce : o.ce1 = o.ce0 + sum o.cws)
    (hcc : o.cws.IsChain (Within β))
    (hsa : ∀ sa ∈ i.saL, 1 ≤ sa ∧ sa ≤ β)
    (hca : ∀ sa ∈ i.saL, ∀ ca ∈ i.caOf sa, 1 ≤ ca ∧ ca ≤ β) :
    f.nx ∈ i.cellNumbers ∧ f.res.ws.length = f.nx ∧ (∀ w ∈ f.res.ws, 0 < w) ∧
    f.res.x0 ≤ o.d0 ∧ o.d1 ≤ f.res.x1 ∧ f.res.x0 ≤ o.c0 ∧ o.c1 ≤ f.res.x1 ∧
    f.res.x1 = f.res.x0 + sum f.res.ws ∧ f.res.ws.IsChain (Within β) ∧
    (∀ x ∈ nodes o.ce0 o.cws, x ∈ nodes f.res.x0 f.res.ws) ∧
    (o.c0, o.c1) = compDomain i.fromCenter o.d0 o.d1 i.center i.wl i.wr i.maxBuffer ∧
    (∀ d ∈ i.domain, o.d0 = d.1 ∧ d.2 ≤ o.d1) ∧ (∀ ss ∈ i.seasurface, ss ≤ o.d1) := by
  obtain ⟨k1, k2, k3, k4⟩ := oaw_ok h
  rw [k1] at hf
  obtain ⟨p1, p2, p3, p4, p5, p6, p7, p8, p9, p10⟩ := search_post hcne hcpos hce hcc hsa hca hf
  exact ⟨p1, p2, p3, p4, p5, p6, p7, p8, p9, p10, k2, k3, fun ss hs => (k4 ss hs).2⟩

/-- **fails loudly**: the model returns no grid exactly when no permitted cell number admits a
pair of candidate stretchings -/
theorem oaw_none_iff {nOf : K → K → Nat} {i : OawIn K} {o : OawOut K} (h : oaw nOf i = .ok o) :
    o.found = none ↔
      ∀ nx ∈ i.cellNumbers, ∀ sa ∈ i.saL, ∀ sd,
        stretch o.ce0 o.ce1 o.cws sa nx o.d0 o.d1 false = some sd →
          ∀ ca ∈ i.caOf sa, stretch sd.x0 sd.x1 sd.ws ca nx o.c0 o.c1 true = none := by
  rw [(oaw_ok h).1]
  exact search_none_iff

open MGH in
theorem goodMg_halvings (M pl md n : Nat) (h : n ∈ goodMg M pl md) : md ≤ halvings n := by
  obtain ⟨_, p, hp, _, k, hk1, _, rfl⟩ := (goodMg_spec M pl md n).1 h
  have h2 : ∀ p ∈ [2, 3, 5, 7, 9, 11, 13, 15, 17, 19], 2 ≤ p := by decide
  rw [halvings_mul_two_pow p (h2 p hp) k]
  omega
/-! non-vacuity: a concrete search that returns a grid (centre cell 100 m, survey domain ±300 m,
computational domain ±1000 m, 16 cells) -/
example : (searchNx (-50 : Rat) 50 [100] (-300) 300 (-1000) 1000 [1] (fun _ => [1, 3/2]) [8, 16]).isSome
    = true := by decide +kernel
example : (stretch (-50 : Rat) 50 [100] 1 8 (-300) 300 false).isSome = true := by decide +kernel
example : (stretch (-50 : Rat) 50 [100] 1 4 (-300) 300 false).isSome = false := by decide +kernel

end Grd
