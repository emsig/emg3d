import Emg3dVerif.Lemmas.Adjoint
/-!
# C08 — `J v` is the data derivative, `Jᵀ` its exact adjoint

Matrix-level theorems (Mathlib, over ℂ) about the specification `Adj` of `Simulation.jvec` /
`jtvec`; the pipeline glue (anisotropy stacking and collection) is in `Props/C07.lean`.
-/
open Matrix BigOperators

namespace Adj
variable {E C C' D : Type} [Fintype E] [Fintype C] [Fintype C'] [Fintype D] [DecidableEq E]

/-- **`Jᵀ` is the exact adjoint of `J`**: `Re⟨w, J v⟩ = ⟨Jᵀ w, v⟩` for every real model vector `v`
and complex data vector `w`, for any receiver matrix `P`, forward field `e`, averaging matrix `G` —
given only that the inverse system matrix is (complex-)symmetric (C02) -/
theorem jtvec_adjoint (k : ℂ) (P : Matrix D E ℂ) (Ainv : Matrix E E ℂ) (hs : Ainvᵀ = Ainv)
    (e : E → ℂ) (G : Matrix E C ℂ) (v : C → ℝ) (w : D → ℂ) :
    (∑ i, star (w i) * jvec k P Ainv e G v i).re = ∑ c, jtvec k P Ainv e G w c * v c := by
  rw [pairing_complex k P Ainv hs e G v w, Complex.re_sum]
  exact Finset.sum_congr rfl fun c _ => Complex.re_mul_ofReal _ _

/-- the inverse of a symmetric matrix is symmetric -/
theorem inv_symm {A Ainv : Matrix E E ℂ} (hA : Aᵀ = A) (h1 : A * Ainv = 1) (h2 : Ainv * A = 1) :
    Ainvᵀ = Ainv :=
  left_inv_eq_right_inv (by rw [← hA, ← Matrix.transpose_mul, h1, Matrix.transpose_one]) h1

theorem jtvecC_comp_grid (k : ℂ) (P : Matrix D E ℂ) (Ainv : Matrix E E ℂ) (e : E → ℂ)
    (G : Matrix E C' ℂ) (V : Matrix C' C ℝ) (w : D → ℂ) (c : C) :
    jtvecC k P Ainv e (G * V.map (fun x => (x : ℂ))) w c =
      ∑ c', (V c' c : ℂ) * jtvecC k P Ainv e G w c' := by
  rw [jtvecC_eq, jac_mul, ← Matrix.vecMul_vecMul, ← jtvecC_eq]
  exact Finset.sum_congr rfl fun c' _ => mul_comm _ _

/-- **other gridding modes**: if the model vector is first volume-averaged to the computational
grid (`V`) and the gradient is brought back with the transposed averaging (`Vᵀ`, what
`_interp_volume_average_adj` does), the pair is still exactly adjoint: `jtvec` with `G V` is
`Vᵀ` applied to `jtvec` with `G` -/
theorem jtvec_comp_grid (k : ℂ) (P : Matrix D E ℂ) (Ainv : Matrix E E ℂ) (e : E → ℂ)
    (G : Matrix E C' ℂ) (V : Matrix C' C ℝ) (w : D → ℂ) (c : C) :
    jtvec k P Ainv e (G * V.map (fun x => (x : ℂ))) w c =
      ∑ c', V c' c * jtvec k P Ainv e G w c' := by
  unfold jtvec
  rw [jtvecC_comp_grid, Complex.re_sum]
  apply Finset.sum_congr rfl
  intro c' _
  rw [Complex.re_ofReal_mul]

/-- … and `jvec` on the computational grid is `jvec` with `G V` -/
theorem jvec_comp_grid (k : ℂ) (P : Matrix D E ℂ) (Ainv : Matrix E E ℂ) (e : E → ℂ)
    (G : Matrix E C' ℂ) (V : Matrix C' C ℝ) (v : C → ℝ) :
    jvec k P Ainv e G (V *ᵥ v) = jvec k P Ainv e (G * V.map (fun x => (x : ℂ))) v := by
  rw [jvec_eq, jvec_eq, jac_mul, ← Matrix.mulVec_mulVec]
  congr 2
  funext c'
  simp only [mulVec, dotProduct, map_apply, Complex.ofReal_sum, Complex.ofReal_mul]

/-- **`J v` is the derivative of the data**: for `A_t = A + t·diag(c·G v)` (both invertible),
`d(σ + t v) − d(σ) = t · J v + t² · (remainder, written out)` with `J = jvec` for `k = −c` -/
theorem jvec_is_derivative {A B Ainv Binv : Matrix E E ℂ} (c : ℂ) (G : Matrix E C ℂ)
    (v : C → ℝ) (t : ℂ) (P : Matrix D E ℂ) (s : E → ℂ)
    (hA : Ainv * A = 1) (hB : B * Binv = 1)
    (hBA : B = A + t • Matrix.diagonal (fun ed => c * (G *ᵥ (fun c => (v c : ℂ))) ed)) :
    P *ᵥ (Binv *ᵥ s) - P *ᵥ (Ainv *ᵥ s) =
      t • jvec (-c) P Ainv (Ainv *ᵥ s) G v +
      (t * t) • (P *ᵥ ((Ainv * Matrix.diagonal (fun ed => c * (G *ᵥ (fun c => (v c : ℂ))) ed) *
        Ainv * Matrix.diagonal (fun ed => c * (G *ᵥ (fun c => (v c : ℂ))) ed) * Binv) *ᵥ s)) := by
  set DA := Matrix.diagonal (fun ed => c * (G *ᵥ (fun c => (v c : ℂ))) ed) with hDA
  have r2 := resolvent2 hA hB hBA
  have hj : jvec (-c) P Ainv (Ainv *ᵥ s) G v = - (P *ᵥ ((Ainv * DA * Ainv) *ᵥ s)) := by
    unfold jvec
    have hd : DA *ᵥ (Ainv *ᵥ s) =
        c • (fun ed => (Ainv *ᵥ s) ed * (G *ᵥ (fun c => (v c : ℂ))) ed) := by
      funext ed
      rw [hDA, Matrix.mulVec_diagonal]
      simp only [Pi.smul_apply, smul_eq_mul]
      ring
    rw [← Matrix.mulVec_mulVec, ← Matrix.mulVec_mulVec, hd, Matrix.mulVec_smul,
      Matrix.mulVec_smul, neg_smul]
  rw [hj]
  conv_lhs => rw [r2]
  simp only [Matrix.add_mulVec, Matrix.sub_mulVec, Matrix.smul_mulVec, Matrix.mulVec_add,
    Matrix.mulVec_sub, Matrix.mulVec_smul]
  simp only [smul_neg]
  abel

end Adj
