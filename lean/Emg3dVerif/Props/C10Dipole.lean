import Emg3dVerif.Props.C10
import Emg3dVerif.Props.C09
/-!
# C10, finite dipoles — the coded cell loop of `_dipole_vector` injects exactly the nominal moment

`Src.dipole_moment` proves `dipole_moment_stmt` (stated in `Props/C10.lean`) for every
grid with strictly increasing nodes and every segment inside it that does not lie in an upper
boundary face (`DirOK`, the known finding `dipole-in-upper-boundary-face`):

* Stage B — the sum over all edges of a component is the sum over the contributing cells of
  `(bilinear weights) · length` (`segVector_sum_x/y/z`), and the weights sum to one;
* Stage C — the guard of the code (`0 ≤ r ≤ 1` in all directions, `al ≠ ar`) accepts exactly the
  cells whose clipping interval is proper (`guard_iff`), so a cell contributes `max 0 (ar − al)`
  (`lenOf_eq`, `no_gap`);
* Stage D — the cell box of each direction covers the segment and its clipping intervals are, up
  to order, the consecutive intervals of a monotone sequence covering `[0, 1]` (`dir_breaks`);
  the three-dimensional tiling identity (`tiling_3d`) then gives total length one (`lenOf_sum`).
-/
open Finset
namespace Src

theorem perm_reflect {α : Type} (m : ℕ) (P : ℕ → α) :
    List.Perm ((List.range m).map (fun i => P (m - 1 - i))) ((List.range m).map P) := by
  have := List.reverse_range' (s := 0) (n := m)
  rw [← List.range_eq_range', Nat.zero_add] at this
  show ((List.range m).map (P ∘ fun x => m - 1 - x)).Perm _
  rw [← List.map_map, ← this, List.map_reverse]
  exact List.reverse_perm _

theorem pairs_down {α : Type} (T : ℕ → α) (lo m : ℕ) :
    List.Perm ((List.range m).map (fun i => (T (lo + i + 1), T (lo + i))))
      ((List.range m).map (fun i => (T (lo + m - i), T (lo + m - (i+1))))) := by
  refine List.Perm.trans (List.Perm.of_eq ?_)
    (perm_reflect m (fun i => (T (lo + m - i), T (lo + m - (i+1)))))
  refine List.map_congr_left fun i hi => ?_
  have hi' := List.mem_range.1 hi
  rw [show lo + m - (m - 1 - i) = lo + i + 1 by omega,
    show lo + m - (m - 1 - i + 1) = lo + i by omega]

theorem anti_rev {α : Type} [LE α] (T : ℕ → α) (lo m : ℕ)
    (hT : ∀ i < m, T (lo + i + 1) ≤ T (lo + i)) :
    ∀ i < m, T (lo + m - i) ≤ T (lo + m - (i+1)) := by
  intro i hi
  have := hT (m - (i+1)) (by omega)
  rwa [show lo + (m - (i+1)) + 1 = lo + m - i by omega,
    show lo + (m - (i+1)) = lo + m - (i+1) by omega] at this

theorem nest_max {α : Type} [LinearOrder α] (a b c d : α) :
    max (max (max d a) b) c = max a (max b (max c d)) := by
  rw [max_assoc, max_assoc, max_comm, max_assoc, max_assoc]

theorem nest_min {α : Type} [LinearOrder α] (a b c d : α) :
    min (min (min d a) b) c = min a (min b (min c d)) := by
  rw [min_assoc, min_assoc, min_comm, min_assoc, min_assoc]

section cell
variable {K : Type} [Field K]

def hat (a : ℕ) (x y : K) (i : ℕ) : K := if i = a then x else if i = a + 1 then y else 0

theorem sum_hat (n a : ℕ) (x y : K) (ha : a + 1 < n) : ∑ i ∈ range n, hat a x y i = x + y :=
  sum_two n a (a+1) x y (Nat.lt_of_succ_lt ha) ha (Nat.succ_ne_self a).symm

theorem sum_delta (n a : ℕ) (ha : a < n) : ∑ i ∈ range n, (if i = a then (1:K) else 0) = 1 := by
  rw [sum_ite_eq' (range n) a (fun _ => (1:K)), if_pos (mem_range.2 ha)]

/-- what `segVector` adds for cell `(a,b,c)` to the component whose own direction has index `u`:
the four edges of the cell in that direction, with bilinear weights in the other two -/
def cellW (a b c : ℕ) (e1 r1 e2 r2 len : K) (u v w : ℕ) : K :=
  if u = a then
    (if v = b then (if w = c then e1*e2*len else if w = c+1 then e1*r2*len else 0)
     else if v = b+1 then (if w = c then r1*e2*len else if w = c+1 then r1*r2*len else 0)
     else 0) else 0

theorem cellW_eq (a b c : ℕ) (e1 r1 e2 r2 len : K) (u v w : ℕ) :
    cellW a b c e1 r1 e2 r2 len u v w
      = (if u = a then 1 else 0) * hat b e1 r1 v * hat c e2 r2 w * len := by
  unfold cellW hat
  -- `ite_mul` before `mul_ite`, so that the right side nests `u`, `v`, `w` like the left
  simp only [ite_mul, one_mul, zero_mul]
  simp only [mul_ite, mul_zero]
  simp only [ite_mul, zero_mul]

theorem S3_cellW_x (nx ny nz a b c : ℕ) (e1 r1 e2 r2 len : K) (ha : a < nx) (hb : b < ny)
    (hc : c < nz) :
    Emg.S3 nx (ny+1) (nz+1) (fun i j k => cellW a b c e1 r1 e2 r2 len i j k)
      = (e1*e2 + e1*r2 + r1*e2 + r1*r2) * len := by
  rw [Emg.S3_tensor _ _ _ _ _ _ _ _ (fun i j k => cellW_eq a b c e1 r1 e2 r2 len i j k),
    sum_delta nx a ha, sum_hat _ b _ _ (Nat.succ_lt_succ hb), sum_hat _ c _ _ (Nat.succ_lt_succ hc)]
  ring

theorem S3_cellW_y (nx ny nz a b c : ℕ) (e1 r1 e2 r2 len : K) (ha : a < nx) (hb : b < ny)
    (hc : c < nz) :
    Emg.S3 (nx+1) ny (nz+1) (fun i j k => cellW b a c e1 r1 e2 r2 len j i k)
      = (e1*e2 + e1*r2 + r1*e2 + r1*r2) * len := by
  rw [Emg.S3_tensor _ _ _ (hat a e1 r1) (fun j => if j = b then 1 else 0) (hat c e2 r2) len _
    (fun i j k => by rw [cellW_eq, mul_comm (ite _ _ _)]), sum_delta ny b hb,
    sum_hat _ a _ _ (Nat.succ_lt_succ ha), sum_hat _ c _ _ (Nat.succ_lt_succ hc)]
  ring

theorem S3_cellW_z (nx ny nz a b c : ℕ) (e1 r1 e2 r2 len : K) (ha : a < nx) (hb : b < ny)
    (hc : c < nz) :
    Emg.S3 (nx+1) (ny+1) nz (fun i j k => cellW c a b e1 r1 e2 r2 len k i j)
      = (e1*e2 + e1*r2 + r1*e2 + r1*r2) * len := by
  rw [Emg.S3_tensor _ _ _ (hat a e1 r1) (hat b e2 r2) (fun k => if k = c then 1 else 0) len _
    (fun i j k => by rw [cellW_eq, mul_comm (ite _ _ _), mul_assoc (hat _ _ _ _),
      mul_comm (ite _ _ _), ← mul_assoc]), sum_delta nz c hc,
    sum_hat _ a _ _ (Nat.succ_lt_succ ha), sum_hat _ b _ _ (Nat.succ_lt_succ hb)]
  ring

theorem perm_sum (l : List (K × K)) (X : ℕ → K) (m : ℕ)
    (hp : List.Perm l ((List.range m).map (fun i => (X i, X (i+1))))) (g : K × K → K) :
    (l.map g).sum = ∑ i ∈ range m, g (X i, X (i+1)) :=
  (hp.map g).sum_eq.trans (by rw [List.map_map]; rfl)

end cell

variable {K : Type} [Field K] [LinearOrder K] [IsStrictOrderedRing K]

def boxOf (g : Grid1 K) (a b : K) : List Nat :=
  (List.range (min (cellIdx g (max a b) + 1) g.n)).filter (· ≥ cellIdx g (min a b))

def segCells (gx gy gz : Grid1 K) (s : Seg K) : List (Nat × Nat × Nat) :=
  (boxOf gz s.p0.2.2 s.p1.2.2).flatMap fun iz =>
  (boxOf gy s.p0.2.1 s.p1.2.1).flatMap fun iy =>
  (boxOf gx s.p0.1 s.p1.1).map fun ix => (ix, iy, iz)

def segContribs (gx gy gz : Grid1 K) (s : Seg K) :
    List ((Nat × Nat × Nat) × (K × (K × K × K) × (K × K × K))) :=
  (segCells gx gy gz s).filterMap fun c =>
    (cellContribution gx gy gz s c.1 c.2.1 c.2.2).map fun r => (c, r)

/-! ### Stage B

Each component of `segVector` is a fold over `segContribs` that adds `cellW` of the cell, with
the roles of the indices permuted (by `rfl`). -/

theorem segVector_sum_x (gx gy gz : Grid1 K) (s : Seg K)
    (hb : ∀ cr ∈ segContribs gx gy gz s, cr.1.1 < gx.n ∧ cr.1.2.1 < gy.n ∧ cr.1.2.2 < gz.n) :
    Emg.S3 gx.n (gy.n+1) (gz.n+1) (segVector gx gy gz s).x =
      ((segContribs gx gy gz s).map fun cr =>
        (cr.2.2.2.2.1*cr.2.2.2.2.2 + cr.2.2.2.2.1*cr.2.2.1.2.2 + cr.2.2.1.2.1*cr.2.2.2.2.2 +
          cr.2.2.1.2.1*cr.2.2.1.2.2) * cr.2.1).sum :=
  (Emg.S3_foldl _ _ _ (segContribs gx gy gz s) fun cr i j k => cellW cr.1.1 cr.1.2.1 cr.1.2.2
      cr.2.2.2.2.1 cr.2.2.1.2.1 cr.2.2.2.2.2 cr.2.2.1.2.2 cr.2.1 i j k).trans
    (congrArg List.sum (List.map_congr_left fun cr hcr =>
      S3_cellW_x _ _ _ _ _ _ _ _ _ _ _ (hb cr hcr).1 (hb cr hcr).2.1 (hb cr hcr).2.2))

section
omit [IsStrictOrderedRing K]

theorem segVector_sum_y (gx gy gz : Grid1 K) (s : Seg K)
    (hb : ∀ cr ∈ segContribs gx gy gz s, cr.1.1 < gx.n ∧ cr.1.2.1 < gy.n ∧ cr.1.2.2 < gz.n) :
    Emg.S3 (gx.n+1) gy.n (gz.n+1) (segVector gx gy gz s).y =
      ((segContribs gx gy gz s).map fun cr =>
        (cr.2.2.2.1*cr.2.2.2.2.2 + cr.2.2.2.1*cr.2.2.1.2.2 + cr.2.2.1.1*cr.2.2.2.2.2 +
          cr.2.2.1.1*cr.2.2.1.2.2) * cr.2.1).sum :=
  (Emg.S3_foldl _ _ _ (segContribs gx gy gz s) fun cr i j k => cellW cr.1.2.1 cr.1.1 cr.1.2.2
      cr.2.2.2.1 cr.2.2.1.1 cr.2.2.2.2.2 cr.2.2.1.2.2 cr.2.1 j i k).trans
    (congrArg List.sum (List.map_congr_left fun cr hcr =>
      S3_cellW_y _ _ _ _ _ _ _ _ _ _ _ (hb cr hcr).1 (hb cr hcr).2.1 (hb cr hcr).2.2))

theorem segVector_sum_z (gx gy gz : Grid1 K) (s : Seg K)
    (hb : ∀ cr ∈ segContribs gx gy gz s, cr.1.1 < gx.n ∧ cr.1.2.1 < gy.n ∧ cr.1.2.2 < gz.n) :
    Emg.S3 (gx.n+1) (gy.n+1) gz.n (segVector gx gy gz s).z =
      ((segContribs gx gy gz s).map fun cr =>
        (cr.2.2.2.1*cr.2.2.2.2.1 + cr.2.2.2.1*cr.2.2.1.2.1 + cr.2.2.1.1*cr.2.2.2.2.1 +
          cr.2.2.1.1*cr.2.2.1.2.1) * cr.2.1).sum :=
  (Emg.S3_foldl _ _ _ (segContribs gx gy gz s) fun cr i j k => cellW cr.1.2.2 cr.1.1 cr.1.2.1
      cr.2.2.2.1 cr.2.2.1.1 cr.2.2.2.2.1 cr.2.2.1.2.1 cr.2.1 k i j).trans
    (congrArg List.sum (List.map_congr_left fun cr hcr =>
      S3_cellW_z _ _ _ _ _ _ _ _ _ _ _ (hb cr hcr).1 (hb cr hcr).2.1 (hb cr hcr).2.2))

end

/-! ### Stage C: the clipping interval, with `(0, 1)` for a degenerate direction -/

def LH (g : Grid1 K) (a b : K) (i : Nat) : K × K :=
  match clipDir g a b i with
  | some p => p
  | none => (0, 1)

def clipStep (acc : K × K) (o : Option (K × K)) : K × K :=
  match o with
  | some (lo, hi) => (max acc.1 lo, min acc.2 hi)
  | none => acc

section
omit [IsStrictOrderedRing K]

theorem clipStep_eq (acc : K × K) (o : Option (K × K)) (h0 : 0 ≤ acc.1) (h1 : acc.2 ≤ 1) :
    clipStep acc o = (max acc.1 (o.getD (0, 1)).1, min acc.2 (o.getD (0, 1)).2) := by
  cases o with
  | none => exact Prod.ext (max_eq_left h0).symm (min_eq_left h1).symm
  | some p => rfl

theorem LH_eq_getD (g : Grid1 K) (a b : K) (i : Nat) :
    LH g a b i = (clipDir g a b i).getD (0, 1) := by
  unfold LH
  cases clipDir g a b i <;> rfl

theorem clip_eq (gx gy gz : Grid1 K) (s : Seg K) (ix iy iz : Nat) :
    clip gx gy gz s ix iy iz =
      (max (max (max 0 (LH gx s.p0.1 s.p1.1 ix).1) (LH gy s.p0.2.1 s.p1.2.1 iy).1)
          (LH gz s.p0.2.2 s.p1.2.2 iz).1,
       min (min (min 1 (LH gx s.p0.1 s.p1.1 ix).2) (LH gy s.p0.2.1 s.p1.2.1 iy).2)
          (LH gz s.p0.2.2 s.p1.2.2 iz).2) := by
  show clipStep (clipStep (clipStep (0, 1) _) _) _ = _
  -- from the inside out: `rw` would otherwise take the outermost step first
  rw [clipStep_eq (0, 1) _ le_rfl le_rfl,
    clipStep_eq (max 0 _, min 1 _) _ (le_max_left _ _) (min_le_left _ _),
    clipStep_eq _ _ (le_max_of_le_left (le_max_left _ _)) (min_le_of_left_le (min_le_left _ _)),
    ← LH_eq_getD, ← LH_eq_getD, ← LH_eq_getD]

theorem LH_deg (g : Grid1 K) (a : K) (i : Nat) : LH g a a i = (0, 1) := by
  unfold LH clipDir
  rw [if_neg (by simp)]

theorem LH_ne (g : Grid1 K) (a b : K) (i : Nat) (hab : a ≠ b) :
    LH g a b i = (min ((g.nodes i - a)/(b - a)) ((g.nodes (i+1) - a)/(b - a)),
      max ((g.nodes i - a)/(b - a)) ((g.nodes (i+1) - a)/(b - a))) := by
  unfold LH clipDir
  rw [if_pos (lt_or_gt_of_ne hab)]

end

theorem LH_nondeg_lt (g : Grid1 K) (a b : K) (i : Nat) (hab : a < b)
    (hi : g.nodes i < g.nodes (i+1)) :
    LH g a b i = ((g.nodes i - a)/(b - a), (g.nodes (i+1) - a)/(b - a)) := by
  have ht : (g.nodes i - a)/(b - a) ≤ (g.nodes (i+1) - a)/(b - a) :=
    div_le_div_of_nonneg_right (sub_le_sub_right hi.le a) (sub_pos.2 hab).le
  rw [LH_ne g a b i hab.ne, min_eq_left ht, max_eq_right ht]

theorem LH_nondeg_gt (g : Grid1 K) (a b : K) (i : Nat) (hab : b < a)
    (hi : g.nodes i < g.nodes (i+1)) :
    LH g a b i = ((g.nodes (i+1) - a)/(b - a), (g.nodes i - a)/(b - a)) := by
  have ht : (g.nodes (i+1) - a)/(b - a) ≤ (g.nodes i - a)/(b - a) :=
    div_le_div_of_nonpos_of_le (sub_neg.2 hab).le (sub_le_sub_right hi.le a)
  rw [LH_ne g a b i hab.ne', min_eq_right ht, max_eq_left ht]

/-- one statement for both signs of `d`, so that no proof below splits on `a < b` / `b < a` -/
theorem affine_mem_iff (a d m x y : K) (hd : d ≠ 0) (hxy : x ≤ y) :
    (x ≤ a + m*d ∧ a + m*d ≤ y) ↔
      (min ((x - a)/d) ((y - a)/d) ≤ m ∧ m ≤ max ((x - a)/d) ((y - a)/d)) := by
  rcases lt_or_gt_of_ne hd with hd | hd
  · have ht : (y - a)/d ≤ (x - a)/d := div_le_div_of_nonpos_of_le hd.le (sub_le_sub_right hxy a)
    rw [min_eq_right ht, max_eq_left ht, div_le_iff_of_neg hd, le_div_iff_of_neg hd,
      sub_le_iff_le_add', le_sub_iff_add_le', and_comm]
  · have ht : (x - a)/d ≤ (y - a)/d := div_le_div_of_nonneg_right (sub_le_sub_right hxy a) hd.le
    rw [min_eq_left ht, max_eq_right ht, div_le_iff₀ hd, le_div_iff₀ hd,
      sub_le_iff_le_add', le_sub_iff_add_le']

/-- relative position of the point at parameter `m` in cell `i` lies in `[0, 1]` -/
abbrev Rok (g : Grid1 K) (a b m : K) (i : Nat) : Prop :=
  0 ≤ (a + m*(b - a) - g.nodes i)/(g.nodes (i+1) - g.nodes i) ∧
    (a + m*(b - a) - g.nodes i)/(g.nodes (i+1) - g.nodes i) ≤ 1

theorem Rok_iff (g : Grid1 K) (a b m : K) (i : Nat) (hi : g.nodes i < g.nodes (i+1)) :
    Rok g a b m i ↔ g.nodes i ≤ a + m*(b - a) ∧ a + m*(b - a) ≤ g.nodes (i+1) := by
  have hh : 0 < g.nodes (i+1) - g.nodes i := sub_pos.2 hi
  unfold Rok
  rw [le_div_iff₀ hh, zero_mul, sub_nonneg, div_le_one hh, sub_le_sub_iff_right]

theorem r_unit_iff (g : Grid1 K) (a b m : K) (i : Nat) (hab : a ≠ b)
    (hi : g.nodes i < g.nodes (i+1)) :
    Rok g a b m i ↔ (LH g a b i).1 ≤ m ∧ m ≤ (LH g a b i).2 := by
  rw [LH_ne g a b i hab, Rok_iff g a b m i hi]
  exact affine_mem_iff a (b - a) m _ _ (sub_ne_zero.2 hab.symm) hi.le

theorem Rok_imp (g : Grid1 K) (a b m : K) (i : Nat) (hi : g.nodes i < g.nodes (i+1))
    (h : Rok g a b m i) :
    ((LH g a b i).1 ≤ m ∧ m ≤ (LH g a b i).2) ∨ ((LH g a b i).1 = 0 ∧ (LH g a b i).2 = 1) := by
  rcases eq_or_ne a b with rfl | hab
  · right
    rw [LH_deg]
    exact ⟨rfl, rfl⟩
  · left
    exact (r_unit_iff g a b m i hab hi).1 h

theorem Rok_of (g : Grid1 K) (a b m : K) (i : Nat) (hi : g.nodes i < g.nodes (i+1))
    (hdeg : a = b → g.nodes i ≤ a ∧ a ≤ g.nodes (i+1))
    (h : (LH g a b i).1 ≤ m ∧ m ≤ (LH g a b i).2) : Rok g a b m i := by
  rcases eq_or_ne a b with rfl | hab
  · rw [Rok_iff g a a m i hi, sub_self, mul_zero, add_zero]
    exact hdeg rfl
  · exact (r_unit_iff g a b m i hab hi).2 h

theorem no_gap (L1 H1 L2 H2 L3 H3 m : K)
    (h1 : (L1 ≤ m ∧ m ≤ H1) ∨ (L1 = 0 ∧ H1 = 1))
    (h2 : (L2 ≤ m ∧ m ≤ H2) ∨ (L2 = 0 ∧ H2 = 1))
    (h3 : (L3 ≤ m ∧ m ≤ H3) ∨ (L3 = 0 ∧ H3 = 1))
    (hm : m = (max (max (max 0 L1) L2) L3 + min (min (min 1 H1) H2) H3)/2) :
    ¬ (min (min (min 1 H1) H2) H3 < max (max (max 0 L1) L2) L3) := by
  -- a direction that does not bracket `m` does not clip at all
  have w : ∀ {L H : K}, (L ≤ m ∧ m ≤ H) ∨ (L = 0 ∧ H = 1) → L ≤ max 0 m ∧ min 1 m ≤ H := by
    rintro L H (⟨h, h'⟩ | ⟨rfl, rfl⟩)
    · exact ⟨le_max_of_le_right h, min_le_of_right_le h'⟩
    · exact ⟨le_max_left _ _, min_le_left _ _⟩
  intro hlt
  have hal : max (max (max 0 L1) L2) L3 ≤ max 0 m :=
    max_le (max_le (max_le (le_max_left _ _) (w h1).1) (w h2).1) (w h3).1
  have har : min 1 m ≤ min (min (min 1 H1) H2) H3 :=
    le_min (le_min (le_min (min_le_left _ _) (w h1).2) (w h2).2) (w h3).2
  -- so `m < al` forces `m < 0`, and `ar < m` forces `1 < m`
  rw [add_comm] at hm
  have hm0 : m < 0 := by
    rcases lt_max_iff.1 (lt_of_lt_of_le (hm ▸ add_div_two_lt_right.2 hlt) hal) with h | h
    · exact h
    · exact absurd h (lt_irrefl _)
  have hm1 : 1 < m := by
    rcases min_lt_iff.1 (lt_of_le_of_lt har (hm ▸ left_lt_add_div_two.2 hlt)) with h | h
    · exact h
    · exact absurd h (lt_irrefl _)
  exact lt_asymm hm1 (hm0.trans zero_lt_one)

/-- clipped parametric length contributed by a cell (0 if the code's guard rejects it) -/
def lenOf (gx gy gz : Grid1 K) (s : Seg K) (c : Nat × Nat × Nat) : K :=
  match cellContribution gx gy gz s c.1 c.2.1 c.2.2 with
  | some r => r.1
  | none => 0

section
omit [IsStrictOrderedRing K]

theorem cellContribution_some_weights (gx gy gz : Grid1 K) (s : Seg K) (ix iy iz : Nat)
    (r : K × (K × K × K) × (K × K × K))
    (h : cellContribution gx gy gz s ix iy iz = some r) :
    r.2.2 = (1 - r.2.1.1, 1 - r.2.1.2.1, 1 - r.2.1.2.2) := by
  unfold cellContribution at h
  simp only at h
  split at h
  · injection h with h; rw [← h]
  · exact absurd h (by simp)

theorem lenOf_ite (gx gy gz : Grid1 K) (s : Seg K) (ix iy iz : Nat) (al ar : K)
    (hc : clip gx gy gz s ix iy iz = (al, ar)) :
    lenOf gx gy gz s (ix, iy, iz) =
      if Rok gx s.p0.1 s.p1.1 ((al + ar)/2) ix ∧ Rok gy s.p0.2.1 s.p1.2.1 ((al + ar)/2) iy ∧
         Rok gz s.p0.2.2 s.p1.2.2 ((al + ar)/2) iz ∧ (al < ar ∨ ar < al)
      then (if al < ar then ar - al else al - ar) else 0 := by
  unfold lenOf cellContribution Rok
  simp only [hc, and_assoc]
  split_ifs <;> rfl

end

/-- **the guard of the code accepts exactly the cells whose clipping interval is proper** -/
theorem guard_iff (gx gy gz : Grid1 K) (s : Seg K) (ix iy iz : Nat) (al ar : K)
    (hc : clip gx gy gz s ix iy iz = (al, ar))
    (hx : gx.nodes ix < gx.nodes (ix+1)) (hy : gy.nodes iy < gy.nodes (iy+1))
    (hz : gz.nodes iz < gz.nodes (iz+1))
    (dx : s.p0.1 = s.p1.1 → gx.nodes ix ≤ s.p0.1 ∧ s.p0.1 ≤ gx.nodes (ix+1))
    (dy : s.p0.2.1 = s.p1.2.1 → gy.nodes iy ≤ s.p0.2.1 ∧ s.p0.2.1 ≤ gy.nodes (iy+1))
    (dz : s.p0.2.2 = s.p1.2.2 → gz.nodes iz ≤ s.p0.2.2 ∧ s.p0.2.2 ≤ gz.nodes (iz+1)) :
    (Rok gx s.p0.1 s.p1.1 ((al + ar)/2) ix ∧ Rok gy s.p0.2.1 s.p1.2.1 ((al + ar)/2) iy ∧
      Rok gz s.p0.2.2 s.p1.2.2 ((al + ar)/2) iz ∧ (al < ar ∨ ar < al)) ↔ al < ar := by
  rw [clip_eq, Prod.mk.injEq] at hc
  obtain ⟨hal, har⟩ := hc
  constructor
  · rintro ⟨rx, ry, rz, h | h⟩
    · exact h
    · refine absurd ?_ (no_gap _ _ _ _ _ _ ((al + ar)/2) (Rok_imp gx _ _ _ ix hx rx)
        (Rok_imp gy _ _ _ iy hy ry) (Rok_imp gz _ _ _ iz hz rz) (by rw [hal, har]))
      rw [hal, har]
      exact h
  · intro h
    -- the mid point lies inside the clipping interval, hence inside that of every direction
    have h1 : al ≤ (al + ar)/2 := (left_lt_add_div_two.2 h).le
    have h2 : (al + ar)/2 ≤ ar := (add_div_two_lt_right.2 h).le
    refine ⟨Rok_of gx _ _ _ ix hx dx ⟨le_trans ?_ h1, le_trans h2 ?_⟩,
      Rok_of gy _ _ _ iy hy dy ⟨le_trans ?_ h1, le_trans h2 ?_⟩,
      Rok_of gz _ _ _ iz hz dz ⟨le_trans ?_ h1, le_trans h2 ?_⟩, Or.inl h⟩
    · rw [← hal]; exact le_max_of_le_left (le_max_of_le_left (le_max_right _ _))
    · rw [← har]; exact min_le_of_left_le (min_le_of_left_le (min_le_right _ _))
    · rw [← hal]; exact le_max_of_le_left (le_max_right _ _)
    · rw [← har]; exact min_le_of_left_le (min_le_right _ _)
    · rw [← hal]; exact le_max_right _ _
    · rw [← har]; exact min_le_right _ _

/-- **the guard is harmless**: a cell contributes exactly the length of its (possibly empty)
intersection with the segment, in parameter space -/
theorem lenOf_eq (gx gy gz : Grid1 K) (s : Seg K) (ix iy iz : Nat)
    (hx : gx.nodes ix < gx.nodes (ix+1)) (hy : gy.nodes iy < gy.nodes (iy+1))
    (hz : gz.nodes iz < gz.nodes (iz+1))
    (dx : s.p0.1 = s.p1.1 → gx.nodes ix ≤ s.p0.1 ∧ s.p0.1 ≤ gx.nodes (ix+1))
    (dy : s.p0.2.1 = s.p1.2.1 → gy.nodes iy ≤ s.p0.2.1 ∧ s.p0.2.1 ≤ gy.nodes (iy+1))
    (dz : s.p0.2.2 = s.p1.2.2 → gz.nodes iz ≤ s.p0.2.2 ∧ s.p0.2.2 ≤ gz.nodes (iz+1)) :
    lenOf gx gy gz s (ix, iy, iz) =
      max 0 ((clip gx gy gz s ix iy iz).2 - (clip gx gy gz s ix iy iz).1) := by
  rw [lenOf_ite gx gy gz s ix iy iz _ _ rfl,
    if_congr (guard_iff gx gy gz s ix iy iz _ _ rfl hx hy hz dx dy dz) rfl rfl]
  split_ifs with h
  · exact (max_eq_right (sub_nonneg.2 h.le)).symm
  · exact (max_eq_left (sub_nonpos.2 (not_lt.1 h))).symm

/-! ### one direction: the cell box covers the segment -/

structure DirOK (g : Grid1 K) (a b : K) : Prop where
  pos : 1 ≤ g.n
  mono : StrictMonoOn g.nodes (g.n+1)
  lo : g.nodes 0 ≤ min a b
  hi : max a b ≤ g.nodes g.n
  notTop : min a b < g.nodes g.n

section
omit [Field K] [IsStrictOrderedRing K]

theorem cellIdx_bracket (g : Grid1 K) (v : K) (hn : 1 ≤ g.n)
    (h0 : g.nodes 0 ≤ v) (h1 : v < g.nodes g.n) :
    cellIdx g v < g.n ∧ g.nodes (cellIdx g v) ≤ v ∧ v < g.nodes (cellIdx g v + 1) := by
  have := whereIdx_bracket g.nodes (g.n+1) v (by omega) h0 (by simpa using h1)
  unfold cellIdx
  exact ⟨by omega, this.2.1, this.2.2⟩

theorem cellIdx_top (g : Grid1 K) (v : K) (hm : StrictMonoOn g.nodes (g.n+1))
    (h1 : g.nodes g.n ≤ v) : cellIdx g v = g.n := by
  obtain ⟨hle, hk, _⟩ := first_spec (fun i => decide (v < g.nodes i)) (g.n+1)
  unfold cellIdx whereIdx
  generalize ((List.range (g.n+1)).find? fun i => decide (v < g.nodes i)).getD (g.n+1) = k at *
  rcases hle.eq_or_lt with rfl | h
  · rfl
  · have hv := of_decide_eq_true (hk h)
    rcases (Nat.le_of_lt_succ h).eq_or_lt with rfl | h'
    · exact absurd hv (not_lt.2 h1)
    · exact absurd (hv.trans (hm k g.n h' (Nat.lt_succ_self _))) (not_lt.2 h1)

theorem mem_boxOf (g : Grid1 K) (a b : K) (j : Nat) :
    j ∈ boxOf g a b ↔ cellIdx g (min a b) ≤ j ∧ j < min (cellIdx g (max a b) + 1) g.n := by
  unfold boxOf
  rw [List.mem_filter, List.mem_range]
  simp only [ge_iff_le, decide_eq_true_eq]
  exact and_comm

theorem boxOf_eq (g : Grid1 K) (a b : K) :
    boxOf g a b = (List.range (min (cellIdx g (max a b) + 1) g.n - cellIdx g (min a b))).map
      (fun i => cellIdx g (min a b) + i) := by
  unfold boxOf
  generalize min (cellIdx g (max a b) + 1) g.n = hi
  generalize cellIdx g (min a b) = lo
  induction hi with
  | zero => simp
  | succ h ih =>
    rw [List.range_succ, List.filter_append, ih]
    by_cases hl : lo ≤ h
    · have : h + 1 - lo = (h - lo) + 1 := by omega
      rw [this, List.range_succ, List.map_append]
      simp [hl]
    · have : h + 1 - lo = 0 := by omega
      have h2 : h - lo = 0 := by omega
      simp [this, h2, hl]

theorem strictMono_le (g : Grid1 K) (hm : StrictMonoOn g.nodes (g.n+1)) {i j : Nat} (hij : i ≤ j)
    (hj : j ≤ g.n) : g.nodes i ≤ g.nodes j := by
  rcases hij.eq_or_lt with rfl | h
  · exact le_rfl
  · exact (hm i j h (Nat.lt_succ_of_le hj)).le

theorem box_facts (g : Grid1 K) (a b : K) (h : DirOK g a b) :
    cellIdx g (min a b) < min (cellIdx g (max a b) + 1) g.n ∧
    g.nodes (cellIdx g (min a b)) ≤ min a b ∧
    max a b ≤ g.nodes (min (cellIdx g (max a b) + 1) g.n) := by
  obtain ⟨l1, l2, l3⟩ := cellIdx_bracket g (min a b) h.pos h.lo h.notTop
  rcases lt_or_ge (max a b) (g.nodes g.n) with ht | ht
  · obtain ⟨u1, u2, u3⟩ := cellIdx_bracket g (max a b) h.pos (h.lo.trans min_le_max) ht
    rw [Nat.min_eq_left u1]
    refine ⟨Nat.lt_succ_of_le ?_, l2, u3.le⟩
    -- otherwise `max a b < nodes (cmax+1) ≤ nodes lo ≤ min a b`
    by_contra hc
    exact absurd ((strictMono_le g h.mono (Nat.succ_le_of_lt (not_le.1 hc)) l1.le).trans
      (l2.trans min_le_max)) (not_le.2 u3)
  · rw [cellIdx_top g _ h.mono ht, Nat.min_eq_right (Nat.le_succ _)]
    exact ⟨l1, l2, h.hi⟩

theorem box_deg (g : Grid1 K) (a : K) (h : DirOK g a a) :
    min (cellIdx g (max a a) + 1) g.n = cellIdx g (min a a) + 1 ∧
      g.nodes (cellIdx g (min a a)) ≤ a ∧ a ≤ g.nodes (cellIdx g (min a a) + 1) := by
  obtain ⟨l1, l2, l3⟩ := cellIdx_bracket g (min a a) h.pos h.lo h.notTop
  rw [max_self]
  rw [min_self] at l1 l2 l3 ⊢
  exact ⟨Nat.min_eq_left l1, l2, l3.le⟩

theorem box_cell (g : Grid1 K) (a b : K) (h : DirOK g a b) {j : Nat} (hj : j ∈ boxOf g a b) :
    g.nodes j < g.nodes (j+1) ∧ (a = b → g.nodes j ≤ a ∧ a ≤ g.nodes (j+1)) := by
  rw [mem_boxOf] at hj
  have hjn : j < g.n := lt_of_lt_of_le hj.2 (Nat.min_le_right _ _)
  refine ⟨h.mono j (j+1) (Nat.lt_succ_self j) (Nat.succ_lt_succ hjn), ?_⟩
  rintro rfl
  obtain ⟨g1, g2, g3⟩ := box_deg g a h
  obtain rfl : j = cellIdx g (min a a) := by omega
  exact ⟨g2, g3⟩

theorem mem_segCells (gx gy gz : Grid1 K) (s : Seg K) (c : Nat × Nat × Nat) :
    c ∈ segCells gx gy gz s ↔
      c.1 ∈ boxOf gx s.p0.1 s.p1.1 ∧ c.2.1 ∈ boxOf gy s.p0.2.1 s.p1.2.1 ∧
      c.2.2 ∈ boxOf gz s.p0.2.2 s.p1.2.2 := by
  unfold segCells
  simp only [List.mem_flatMap, List.mem_map]
  constructor
  · rintro ⟨iz, hz, iy, hy, ix, hx, rfl⟩
    exact ⟨hx, hy, hz⟩
  · rintro ⟨hx, hy, hz⟩
    exact ⟨c.2.2, hz, c.2.1, hy, c.1, hx, rfl⟩

end

/-- **break points of one direction**: the clipping intervals of the cells of the box are, up to
order, the consecutive intervals of a monotone sequence that covers `[0, 1]` -/
theorem dir_breaks (g : Grid1 K) (a b : K) (h : DirOK g a b) :
    ∃ (X : ℕ → K) (m : ℕ), (∀ i < m, X i ≤ X (i+1)) ∧ X 0 ≤ 0 ∧ 1 ≤ X m ∧
      List.Perm ((boxOf g a b).map (fun j => LH g a b j))
        ((List.range m).map (fun i => (X i, X (i+1)))) := by
  obtain ⟨f1, f3, f4⟩ := box_facts g a b h
  have f2 : min (cellIdx g (max a b) + 1) g.n ≤ g.n := Nat.min_le_right _ _
  have f5 : a = b → min (cellIdx g (max a b) + 1) g.n = cellIdx g (min a b) + 1 := by
    rintro rfl
    exact (box_deg g a h).1
  rw [boxOf_eq g a b, List.map_map]
  generalize cellIdx g (min a b) = lo at *
  generalize min (cellIdx g (max a b) + 1) g.n = hi at *
  obtain ⟨m, rfl⟩ := Nat.exists_eq_add_of_lt f1
  have hstep : ∀ i < m + 1, g.nodes (lo + i) < g.nodes (lo + i + 1) := fun i hi =>
    h.mono _ _ (Nat.lt_succ_self _)
      (Nat.lt_succ_of_le ((Nat.succ_le_succ (Nat.add_le_add_left (Nat.le_of_lt_succ hi) lo)).trans f2))
  rw [Nat.add_assoc, Nat.add_sub_cancel_left]
  rcases lt_trichotomy a b with hab | hab | hab
  · -- increasing: the parameters of the nodes `lo, lo+1, …` themselves
    have hd : 0 < b - a := sub_pos.2 hab
    rw [min_eq_left hab.le] at f3
    rw [max_eq_right hab.le] at f4
    refine ⟨fun i => (g.nodes (lo + i) - a)/(b - a), m + 1,
      fun i hi => div_le_div_of_nonneg_right (sub_le_sub_right (hstep i hi).le a) hd.le,
      div_nonpos_of_nonpos_of_nonneg (sub_nonpos.2 f3) hd.le,
      (one_le_div hd).2 (sub_le_sub_right f4 a), List.Perm.of_eq ?_⟩
    exact List.map_congr_left fun i hi =>
      LH_nondeg_lt g a b (lo + i) hab (hstep i (List.mem_range.1 hi))
  · -- degenerate: one cell, no clipping
    obtain rfl : m = 0 := by have := f5 hab; omega
    subst hab
    refine ⟨fun i => (i : K), 1, fun i _ => Nat.cast_le.2 (Nat.le_succ i), Nat.cast_zero.le,
      Nat.cast_one.ge, List.Perm.of_eq ?_⟩
    show [LH g a a (lo + 0)] = [(((0:ℕ):K), ((0+1:ℕ):K))]
    rw [LH_deg, Nat.cast_zero, Nat.zero_add, Nat.cast_one]
  · -- decreasing: the same parameters in the opposite order
    have hd : b - a < 0 := sub_neg.2 hab
    rw [min_eq_right hab.le] at f3
    rw [max_eq_left hab.le] at f4
    refine ⟨fun i => (g.nodes (lo + (m + 1) - i) - a)/(b - a), m + 1,
      anti_rev (fun j => (g.nodes j - a)/(b - a)) lo (m + 1) fun i hi =>
        div_le_div_of_nonpos_of_le hd.le (sub_le_sub_right (hstep i hi).le a),
      div_nonpos_of_nonneg_of_nonpos (sub_nonneg.2 f4) hd.le, ?_, ?_⟩
    · show 1 ≤ (g.nodes (lo + (m + 1) - (m + 1)) - a)/(b - a)
      rw [Nat.add_sub_cancel, le_div_iff_of_neg hd, one_mul]
      exact sub_le_sub_right f3 a
    · refine List.Perm.trans (List.Perm.of_eq ?_)
        (pairs_down (fun j => (g.nodes j - a)/(b - a)) lo (m + 1))
      exact List.map_congr_left fun i hi =>
        LH_nondeg_gt g a b (lo + i) hab (hstep i (List.mem_range.1 hi))

def Fclip (p q r : K × K) : K :=
  max 0 (min (min (min 1 p.2) q.2) r.2 - max (max (max 0 p.1) q.1) r.1)

theorem box_tiling (lx ly lz : List (K × K)) (X Y Z : ℕ → K) (nx ny nz : ℕ)
    (px : List.Perm lx ((List.range nx).map (fun i => (X i, X (i+1)))))
    (py : List.Perm ly ((List.range ny).map (fun i => (Y i, Y (i+1)))))
    (pz : List.Perm lz ((List.range nz).map (fun i => (Z i, Z (i+1)))))
    (hX : ∀ i < nx, X i ≤ X (i+1)) (hY : ∀ i < ny, Y i ≤ Y (i+1)) (hZ : ∀ i < nz, Z i ≤ Z (i+1))
    (hX0 : X 0 ≤ 0) (hX1 : 1 ≤ X nx) (hY0 : Y 0 ≤ 0) (hY1 : 1 ≤ Y ny)
    (hZ0 : Z 0 ≤ 0) (hZ1 : 1 ≤ Z nz) :
    (lz.map fun r => (ly.map fun q => (lx.map fun p => Fclip p q r).sum).sum).sum = 1 := by
  have e1 : ∀ q r, (lx.map fun p => Fclip p q r).sum = ∑ i ∈ range nx, Fclip (X i, X (i+1)) q r :=
    fun q r => perm_sum lx X nx px (fun p => Fclip p q r)
  simp only [e1]
  have e2 : ∀ r, (ly.map fun q => ∑ i ∈ range nx, Fclip (X i, X (i+1)) q r).sum =
      ∑ j ∈ range ny, ∑ i ∈ range nx, Fclip (X i, X (i+1)) (Y j, Y (j+1)) r :=
    fun r => perm_sum ly Y ny py (fun q => ∑ i ∈ range nx, Fclip (X i, X (i+1)) q r)
  simp only [e2]
  rw [perm_sum lz Z nz pz
    (fun r => ∑ j ∈ range ny, ∑ i ∈ range nx, Fclip (X i, X (i+1)) (Y j, Y (j+1)) r)]
  rw [← tiling_3d X Y Z nx ny nz hX hY hZ hX0 hX1 hY0 hY1 hZ0 hZ1]
  apply sum_congr rfl; intro k _
  apply sum_congr rfl; intro j _
  apply sum_congr rfl; intro i _
  unfold Fclip
  simp only
  rw [nest_min, nest_max]

section
omit [IsStrictOrderedRing K]

theorem segCells_sum (gx gy gz : Grid1 K) (s : Seg K) (G : Nat × Nat × Nat → K) :
    ((segCells gx gy gz s).map G).sum =
      ((boxOf gz s.p0.2.2 s.p1.2.2).map fun iz =>
        ((boxOf gy s.p0.2.1 s.p1.2.1).map fun iy =>
          ((boxOf gx s.p0.1 s.p1.1).map fun ix => G (ix, iy, iz)).sum).sum).sum := by
  have flat : ∀ {α β : Type} (l : List α) (f : α → List β) (g : β → K),
      ((l.flatMap f).map g).sum = (l.map fun a => ((f a).map g).sum).sum := by
    intro α β l f g
    rw [List.map_flatMap, List.flatMap_def, List.sum_flatten, List.map_map]
    rfl
  unfold segCells
  rw [flat]
  refine congrArg List.sum (List.map_congr_left fun iz _ => ?_)
  rw [flat]
  refine congrArg List.sum (List.map_congr_left fun iy _ => ?_)
  rw [List.map_map]
  rfl

/-- sum over the contributing cells of (weights · length) = sum over all cells of the box of the
length the cell contributes (weights sum to one) -/
theorem contribs_sum (gx gy gz : Grid1 K) (s : Seg K)
    (W : (Nat × Nat × Nat) × (K × (K × K × K) × (K × K × K)) → K)
    (hW : ∀ c r, r.2.2 = (1 - r.2.1.1, 1 - r.2.1.2.1, 1 - r.2.1.2.2) → W (c, r) = r.1) :
    ((segContribs gx gy gz s).map W).sum = ((segCells gx gy gz s).map (lenOf gx gy gz s)).sum := by
  unfold segContribs
  generalize segCells gx gy gz s = l
  induction l with
  | nil => simp
  | cons c t ih =>
    rw [List.filterMap_cons, List.map_cons, List.sum_cons, ← ih]
    unfold lenOf
    cases hcc : cellContribution gx gy gz s c.1 c.2.1 c.2.2 with
    | none => simp
    | some r =>
      simp only [Option.map_some, List.map_cons, List.sum_cons]
      rw [hW c r (cellContribution_some_weights gx gy gz s _ _ _ r hcc)]

theorem contribs_in_range (gx gy gz : Grid1 K) (s : Seg K) :
    ∀ cr ∈ segContribs gx gy gz s, cr.1.1 < gx.n ∧ cr.1.2.1 < gy.n ∧ cr.1.2.2 < gz.n := by
  intro cr hcr
  obtain ⟨c, hc, hmap⟩ := List.mem_filterMap.1 hcr
  obtain ⟨r, -, rfl⟩ := Option.map_eq_some_iff.1 hmap
  obtain ⟨mx, my, mz⟩ := (mem_segCells gx gy gz s c).1 hc
  rw [mem_boxOf] at mx my mz
  exact ⟨lt_of_lt_of_le mx.2 (Nat.min_le_right _ _), lt_of_lt_of_le my.2 (Nat.min_le_right _ _),
    lt_of_lt_of_le mz.2 (Nat.min_le_right _ _)⟩

end

/-- **the clipped lengths of all cells of the box sum to one** -/
theorem lenOf_sum (gx gy gz : Grid1 K) (s : Seg K) (hx : DirOK gx s.p0.1 s.p1.1)
    (hy : DirOK gy s.p0.2.1 s.p1.2.1) (hz : DirOK gz s.p0.2.2 s.p1.2.2) :
    ((segCells gx gy gz s).map (lenOf gx gy gz s)).sum = 1 := by
  have hG : ∀ c ∈ segCells gx gy gz s, lenOf gx gy gz s c =
      Fclip (LH gx s.p0.1 s.p1.1 c.1) (LH gy s.p0.2.1 s.p1.2.1 c.2.1)
        (LH gz s.p0.2.2 s.p1.2.2 c.2.2) := by
    intro c hc
    obtain ⟨mx, my, mz⟩ := (mem_segCells gx gy gz s c).1 hc
    obtain ⟨sx, dx⟩ := box_cell gx _ _ hx mx
    obtain ⟨sy, dy⟩ := box_cell gy _ _ hy my
    obtain ⟨sz, dz⟩ := box_cell gz _ _ hz mz
    have := lenOf_eq gx gy gz s c.1 c.2.1 c.2.2 sx sy sz dx dy dz
    rw [show (c.1, c.2.1, c.2.2) = c from rfl] at this
    rw [this, clip_eq]
    rfl
  rw [List.map_congr_left hG]
  rw [segCells_sum gx gy gz s (fun c => Fclip (LH gx s.p0.1 s.p1.1 c.1)
    (LH gy s.p0.2.1 s.p1.2.1 c.2.1) (LH gz s.p0.2.2 s.p1.2.2 c.2.2))]
  obtain ⟨X, nx, hX, hX0, hX1, px⟩ := dir_breaks gx _ _ hx
  obtain ⟨Y, ny, hY, hY0, hY1, py⟩ := dir_breaks gy _ _ hy
  obtain ⟨Z, nz, hZ, hZ0, hZ1, pz⟩ := dir_breaks gz _ _ hz
  have := box_tiling _ _ _ X Y Z nx ny nz px py pz hX hY hZ hX0 hX1 hY0 hY1 hZ0 hZ1
  simp only [List.map_map] at this
  exact this

/-- **the un-scaled vector of a segment sums to one in every component** -/
theorem segVector_sums (gx gy gz : Grid1 K) (s : Seg K) (hx : DirOK gx s.p0.1 s.p1.1)
    (hy : DirOK gy s.p0.2.1 s.p1.2.1) (hz : DirOK gz s.p0.2.2 s.p1.2.2) :
    Emg.S3 gx.n (gy.n+1) (gz.n+1) (segVector gx gy gz s).x = 1 ∧
    Emg.S3 (gx.n+1) gy.n (gz.n+1) (segVector gx gy gz s).y = 1 ∧
    Emg.S3 (gx.n+1) (gy.n+1) gz.n (segVector gx gy gz s).z = 1 := by
  have hb := contribs_in_range gx gy gz s
  have hl := lenOf_sum gx gy gz s hx hy hz
  refine ⟨?_, ?_, ?_⟩
  · rw [segVector_sum_x gx gy gz s hb,
      contribs_sum gx gy gz s _ (by intro c r hr; simp only [hr]; ring), hl]
  · rw [segVector_sum_y gx gy gz s hb,
      contribs_sum gx gy gz s _ (by intro c r hr; simp only [hr]; ring), hl]
  · rw [segVector_sum_z gx gy gz s hb,
      contribs_sum gx gy gz s _ (by intro c r hr; simp only [hr]; ring), hl]

/-- **C10, finite dipoles**: every Cartesian component of the dipole vector of a segment inside the
grid (not lying in an upper boundary face) sums to the corresponding component of
`p1 − p0` — the source injects exactly its nominal moment -/
theorem dipole_moment (gx gy gz : Grid1 K) (s : Seg K) (hx : DirOK gx s.p0.1 s.p1.1)
    (hy : DirOK gy s.p0.2.1 s.p1.2.1) (hz : DirOK gz s.p0.2.2 s.p1.2.2) :
    dipole_moment_stmt gx gy gz s := by
  obtain ⟨sx, sy, sz⟩ := segVector_sums gx gy gz s hx hy hz
  unfold dipole_moment_stmt dipoleVector
  simp only
  refine ⟨?_, ?_, ?_⟩
  · rw [Emg.S3_mul_const, sx, one_mul]
  · rw [Emg.S3_mul_const, sy, one_mul]
  · rw [Emg.S3_mul_const, sz, one_mul]

end Src
