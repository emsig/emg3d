-- `harness/c01.py` audits the theorems of C01 through this module: the import puts them in scope
import Emg3dVerif.Props.C01
import Emg3dVerif.Props.Cycle
import Emg3dVerif.Lemmas.EdgeSum
set_option linter.unusedSectionVars false
/-!
# The complete multigrid call never writes a tangential boundary value (C01, clause PEC)

C01 states that the field a successful solve returns has zero tangential components on the
domain boundary.  `solve()` zeroes them once in a field supplied by the caller; this file
proves that nothing `multigrid` does afterwards can bring them back — for **every** event
list (every cycle type, semicoarsening / line-relaxation pattern, smoothing counts, number of
cycles), every grid, model, source and start field:

* `runTrace_frame` / `mgRun_frame`: the call returns the one level it was given — same grid,
  model and source — with a field that agrees with the start field on every edge outside the
  interior index range (tangential boundary edges and everything out of range);
* `mgRun_pec`: hence a PEC start field gives a PEC result;
* `runTrace_allPec`: every coarse-grid field created on the way is PEC on its own grid.

The statements need no hypothesis on the block systems: a singular block leaves the field
unchanged (flag `false`), which is also a frame.

Tie to the code: `harness/c03.py`, suite `cycle` (`solver.multigrid` against `Emg.mgRun` on all
edges, boundary included) and `harness/c01.py` (PEC of the returned field of real solves).
-/
namespace Emg
open MGH
variable {K : Type} [Field K] [DecidableEq K]

/-- a field that agrees with a PEC field outside the interior edges is PEC -/
theorem pec_of_frame (g : Grid K) (e e' : EF K)
    (h : ∀ q, ¬ Interior g.nx g.ny g.nz q → e'.get q = e.get q) (hp : PEC g e) : PEC g e' :=
  pec_iff.2 fun q hq => (h q hq.not_interior).trans (pec_iff.1 hp q hq)

theorem pec_zero (g : Grid K) : PEC g (zeroEF : EF K) := by
  constructor <;> intros <;> rfl

/-- `solver.smoothing` (any adapted code, any number of sweeps, solvable blocks or not) writes
interior edges only -/
theorem smoothingC_frame (g : Grid K) (m : VM K) (s e : EF K) (nu clr : ℕ) (q : Edge)
    (hq : ¬ Interior g.nx g.ny g.nz q) : (smoothingC g m s e nu clr).1.get q = e.get q :=
  relaxAll_frame g m s q _
    (fun B hB hqB => hq (smoothingC_blocks_interior _ _ _ _ _ B hB q hqB)) _

/-- `solver.prolongation` adds the interpolated correction to interior edges only -/
theorem prolong_frame (csc : ℕ) (g : Grid K) (e ce : EF K) (q : Edge)
    (hq : ¬ Interior g.nx g.ny g.nz q) : (prolong csc g e ce).get q = e.get q := by
  obtain ⟨c, i, j, k⟩ := q
  cases c <;> simp only [Interior] at hq <;> simp only [EF.get, prolong] <;> rw [if_neg] <;>
    intro h <;> exact hq (by omega)

/-! ## all levels are PEC -/

def AllPec (st : List (Lvl K) × Bool) : Prop := ∀ l ∈ st.1, PEC l.g l.e

theorem step_allPec (st : List (Lvl K) × Bool) (ev : Ev) (h : AllPec st) : AllPec (step st ev) := by
  obtain ⟨stack, ok⟩ := st
  cases ev with
  | enter a b c => cases stack <;> exact h
  | cycleEnd a b c => cases stack <;> exact h
  | smooth lev sh nu clr =>
    obtain _ | ⟨l, ls⟩ := stack
    · exact h
    · exact List.forall_mem_cons.2
        ⟨pec_of_frame l.g l.e _ (smoothingC_frame l.g l.m l.s l.e nu clr) (h l List.mem_cons_self),
          fun y hy => h y (List.mem_cons_of_mem _ hy)⟩
  | restrict lev sh csc cs =>
    obtain _ | ⟨l, ls⟩ := stack
    · exact h
    · exact List.forall_mem_cons.2 ⟨pec_zero _, h⟩
  | prolong lev sh csc =>
    obtain _ | ⟨c, _ | ⟨l, ls⟩⟩ := stack
    · exact h
    · exact h
    · refine List.forall_mem_cons.2 ⟨pec_of_frame l.g l.e _ (fun q hq => ?_)
        (h l (List.mem_cons_of_mem _ List.mem_cons_self)),
        fun y hy => h y (List.mem_cons_of_mem _ (List.mem_cons_of_mem _ hy))⟩
      rw [matEF_eq]
      exact prolong_frame csc l.g l.e c.e q hq

/-- **Every level of every event list is PEC on its own grid**, coarse-grid fields included. -/
theorem runTrace_allPec (evs : List Ev) : ∀ st : List (Lvl K) × Bool, AllPec st →
    AllPec (runTrace st evs) :=
  runTrace_preserves _ step_allPec evs

/-! ## the fine level: same grid, model, source; frame on the field -/

/-- the bottom of the stack is the level the call was given, with a field that agrees with the
start field outside the interior -/
def BaseFrame (l0 : Lvl K) (st : List (Lvl K) × Bool) : Prop :=
  ∃ zs e', st.1 = zs ++ [{ l0 with e := e' }] ∧
    ∀ q, ¬ Interior l0.g.nx l0.g.ny l0.g.nz q → e'.get q = l0.e.get q

theorem step_baseFrame (l0 : Lvl K) (st : List (Lvl K) × Bool) (ev : Ev)
    (h : BaseFrame l0 st) : BaseFrame l0 (step st ev) := by
  obtain ⟨stack, ok⟩ := st
  obtain ⟨zs, e', hst, hf⟩ := h
  simp only at hst
  subst hst
  cases ev with
  | enter a b c =>
    obtain _ | ⟨z, zs⟩ := zs
    · exact ⟨[], e', rfl, hf⟩
    · exact ⟨z :: zs, e', rfl, hf⟩
  | cycleEnd a b c =>
    obtain _ | ⟨z, zs⟩ := zs
    · exact ⟨[], e', rfl, hf⟩
    · exact ⟨z :: zs, e', rfl, hf⟩
  | smooth lev sh nu clr =>
    obtain _ | ⟨z, zs⟩ := zs
    · exact ⟨[], (smoothingC l0.g l0.m l0.s e' nu clr).1, rfl, fun q hq =>
        (smoothingC_frame l0.g l0.m l0.s e' nu clr q hq).trans (hf q hq)⟩
    · exact ⟨_ :: zs, e', rfl, hf⟩
  | restrict lev sh csc cs =>
    obtain _ | ⟨z, zs⟩ := zs
    · exact ⟨[coarseLvl csc { l0 with e := e' }], e', rfl, hf⟩
    · exact ⟨coarseLvl csc z :: z :: zs, e', rfl, hf⟩
  | prolong lev sh csc =>
    obtain _ | ⟨c, _ | ⟨z, zs⟩⟩ := zs
    · exact ⟨[], e', rfl, hf⟩
    · refine ⟨[], matEF l0.g (prolong csc l0.g e' c.e), rfl, fun q hq => ?_⟩
      rw [matEF_eq]
      exact (prolong_frame csc l0.g e' c.e q hq).trans (hf q hq)
    · exact ⟨_ :: zs, e', rfl, hf⟩

theorem runTrace_frame (l0 : Lvl K) (evs : List Ev) : ∀ st : List (Lvl K) × Bool,
    BaseFrame l0 st → BaseFrame l0 (runTrace st evs) :=
  runTrace_preserves _ (step_baseFrame l0) evs

/-- **One complete `multigrid` call returns the level it was given — same grid, model and
source — and its field agrees with the start field on every edge outside the interior**:
tangential boundary values are never written, whatever the configuration and the input. -/
theorem mgRun_frame (r : Run) (l0 : Lvl K) :
    ∃ e', (mgRun r l0).1 = [{ l0 with e := e' }] ∧
      ∀ q, ¬ Interior l0.g.nx l0.g.ny l0.g.nz q → e'.get q = l0.e.get q := by
  obtain ⟨zs, e', h1, h2⟩ := runTrace_frame l0 (mgTrace r) ([l0], true)
    ⟨[], l0.e, rfl, fun _ _ => rfl⟩
  exact ⟨e', mgRun_eq_singleton r l0 h1, h2⟩

/-- **C01, clause PEC, for plain multigrid**: a start field with zero tangential boundary
components (what `solve()` establishes before calling `multigrid`) gives a result with zero
tangential boundary components. -/
theorem mgRun_pec (r : Run) (l0 : Lvl K) (hp : PEC l0.g l0.e) :
    ∃ e', (mgRun r l0).1 = [{ l0 with e := e' }] ∧ PEC l0.g e' := by
  obtain ⟨e', h1, h2⟩ := mgRun_frame r l0
  exact ⟨e', h1, pec_of_frame l0.g l0.e e' h2 hp⟩

/-- … and a tangential boundary value the caller left in the field would still be there
(which is why `solve()` has to zero it: the contrapositive of `mgRun_pec`) -/
theorem mgRun_keeps_boundary_value (r : Run) (l0 : Lvl K) (q : Edge)
    (hq : ¬ Interior l0.g.nx l0.g.ny l0.g.nz q) (hne : l0.e.get q ≠ 0) :
    ∃ e', (mgRun r l0).1 = [{ l0 with e := e' }] ∧ e'.get q ≠ 0 := by
  obtain ⟨e', h1, h2⟩ := mgRun_frame r l0
  exact ⟨e', h1, by rw [h2 q hq]; exact hne⟩

/-- non-vacuity: the zero field on any grid is PEC, so `mgRun_pec` applies to every fresh solve -/
example (r : Run) (g : Grid K) (m : VM K) (s : EF K) :
    ∃ e', (mgRun r ⟨g, m, s, zeroEF⟩).1 = [⟨g, m, s, e'⟩] ∧ PEC g e' :=
  mgRun_pec r ⟨g, m, s, zeroEF⟩ (pec_zero g)

end Emg
