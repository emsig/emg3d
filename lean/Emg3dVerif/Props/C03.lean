import Emg3dVerif.Lemmas.Smooth
import Emg3dVerif.Lemmas.Ldlt
import Emg3dVerif.Props.C05
set_option linter.unusedSectionVars false
/-!
# C03 — every smoother is a consistent relaxation of the same linear system

`Emg.smoothing` / `Emg.runKernel` model `emg3d.solver.smoothing` and the four kernels
`core.gauss_seidel(_x/_y/_z)` as block Gauss–Seidel relaxation of the operator `Emg.amat`
(the operator of C02).  The tie to the code is the exact-arithmetic correspondence of
`harness/c03.py`: the kernels' Python source, run on exact Gaussian rationals, produces the
same fields as the model, entry by entry.

Hypothesis `BlockInj`: the block systems are non-singular (the solver's documented
precondition); the model's success flag witnesses solvability on every executed case.
-/
namespace Emg
variable {K : Type} [Field K] [DecidableEq K]

/-- interior edges inside the kernels' index range (everything except tangential boundary
edges) -/
def Interior (nx ny nz : Nat) (d : Edge) : Prop :=
  match d.c with
  | .x => d.i < nx ∧ 1 ≤ d.j ∧ d.j < ny ∧ 1 ≤ d.k ∧ d.k < nz
  | .y => 1 ≤ d.i ∧ d.i < nx ∧ d.j < ny ∧ 1 ≤ d.k ∧ d.k < nz
  | .z => 1 ≤ d.i ∧ d.i < nx ∧ 1 ≤ d.j ∧ d.j < ny ∧ d.k < nz

theorem mem_idxSeq (back : Bool) (n i : Nat) (h : i ∈ idxSeq back n) : 1 ≤ i ∧ i < n := by
  simp only [idxSeq, List.mem_map, List.mem_range] at h
  obtain ⟨a, ha, rfl⟩ := h
  split <;> omega

theorem nodeBlock_interior (nx ny nz ix iy iz : Nat) (hx : 1 ≤ ix ∧ ix < nx)
    (hy : 1 ≤ iy ∧ iy < ny) (hz : 1 ≤ iz ∧ iz < nz) :
    ∀ d ∈ nodeBlock ix iy iz, Interior nx ny nz d := by
  simp only [nodeBlock, List.forall_mem_cons, List.not_mem_nil, false_imp_iff, implies_true,
    and_true, Interior]
  omega

/-- the shape shared by the three line blocks: per cell of the line its own edge, and between
two cells the four transverse edges at the node -/
theorem forall_mem_line {α : Type} (P : α → Prop) (n : ℕ) (e : ℕ → α) (l : ℕ → List α)
    (he : ∀ a < n, P (e a)) (hl : ∀ a, a + 1 < n → ∀ d ∈ l a, P d) :
    ∀ d ∈ (List.range n).flatMap fun a => e a :: (if a + 1 < n then l a else []), P d := by
  simp only [List.forall_mem_flatMap, List.mem_range, List.forall_mem_cons]
  intro a ha
  refine ⟨he a ha, ?_⟩
  split
  · exact hl a ‹_›
  · exact fun _ h => absurd h List.not_mem_nil

theorem lineBlockX_interior (nx ny nz iy iz : Nat) (hy : 1 ≤ iy ∧ iy < ny) (hz : 1 ≤ iz ∧ iz < nz) :
    ∀ d ∈ lineBlockX nx iy iz, Interior nx ny nz d :=
  forall_mem_line _ nx _ _ (fun a ha => by simp only [Interior]; omega) fun a ha => by
    simp only [List.forall_mem_cons, List.not_mem_nil, false_imp_iff, implies_true, and_true,
      Interior]
    omega

theorem lineBlockY_interior (nx ny nz ix iz : Nat) (hx : 1 ≤ ix ∧ ix < nx) (hz : 1 ≤ iz ∧ iz < nz) :
    ∀ d ∈ lineBlockY ny ix iz, Interior nx ny nz d :=
  forall_mem_line _ ny _ _ (fun a ha => by simp only [Interior]; omega) fun a ha => by
    simp only [List.forall_mem_cons, List.not_mem_nil, false_imp_iff, implies_true, and_true,
      Interior]
    omega

theorem lineBlockZ_interior (nx ny nz ix iy : Nat) (hx : 1 ≤ ix ∧ ix < nx) (hy : 1 ≤ iy ∧ iy < ny) :
    ∀ d ∈ lineBlockZ nz ix iy, Interior nx ny nz d :=
  forall_mem_line _ nz _ _ (fun a ha => by simp only [Interior]; omega) fun a ha => by
    simp only [List.forall_mem_cons, List.not_mem_nil, false_imp_iff, implies_true, and_true,
      Interior]
    omega

theorem sweepBlocks_interior (kernel nx ny nz : Nat) (back : Bool) :
    ∀ B ∈ sweepBlocks kernel nx ny nz back, ∀ d ∈ B, Interior nx ny nz d := by
  intro B hB
  unfold sweepBlocks at hB
  split at hB
  · simp only [List.mem_flatMap, List.mem_map] at hB
    obtain ⟨iz, hz, iy, hy, ix, hx, rfl⟩ := hB
    exact nodeBlock_interior nx ny nz ix iy iz (mem_idxSeq _ _ _ hx) (mem_idxSeq _ _ _ hy)
      (mem_idxSeq _ _ _ hz)
  · simp only [List.mem_flatMap, List.mem_map] at hB
    obtain ⟨iz, hz, iy, hy, rfl⟩ := hB
    exact lineBlockX_interior nx ny nz iy iz (mem_idxSeq _ _ _ hy) (mem_idxSeq _ _ _ hz)
  · simp only [List.mem_flatMap, List.mem_map] at hB
    obtain ⟨iz, hz, ix, hx, rfl⟩ := hB
    exact lineBlockY_interior nx ny nz ix iz (mem_idxSeq _ _ _ hx) (mem_idxSeq _ _ _ hz)
  · simp only [List.mem_flatMap, List.mem_map] at hB
    obtain ⟨iy, hy, ix, hx, rfl⟩ := hB
    exact lineBlockZ_interior nx ny nz ix iy (mem_idxSeq _ _ _ hx) (mem_idxSeq _ _ _ hy)

theorem kernelBlocks_interior (kernel nx ny nz nu : Nat) :
    ∀ B ∈ kernelBlocks kernel nx ny nz nu, ∀ d ∈ B, Interior nx ny nz d := by
  intro B hB
  simp only [kernelBlocks, List.mem_flatMap] at hB
  obtain ⟨t, _, hB⟩ := hB
  exact sweepBlocks_interior kernel nx ny nz _ B hB

theorem smoothingBlocks_interior (nx ny nz nu lr : Nat) :
    ∀ B ∈ smoothingBlocks nx ny nz nu lr, ∀ d ∈ B, Interior nx ny nz d := by
  intro B hB
  simp only [smoothingBlocks, List.mem_flatMap] at hB
  obtain ⟨kernel, _, hB⟩ := hB
  exact kernelBlocks_interior kernel nx ny nz nu B hB

/-- every block system met by any smoothing variant on this grid/model is non-singular -/
def AllInj (g : Grid K) (m : VM K) : Prop :=
  ∀ kernel nu, ∀ B ∈ kernelBlocks kernel g.nx g.ny g.nz nu, BlockInj g m B

theorem AllInj.smoothing {g : Grid K} {m : VM K} (h : AllInj g m) (nu lr : Nat) :
    ∀ B ∈ smoothingBlocks g.nx g.ny g.nz nu lr, BlockInj g m B := by
  intro B hB
  simp only [smoothingBlocks, List.mem_flatMap] at hB
  obtain ⟨kernel, _, hB⟩ := hB
  exact h kernel nu B hB

/-! ## the four clauses, for every kernel and for `smoothing` with every code -/

/-- **Tangential boundary values are never written** (nor anything else outside the interior
edges), by any kernel, any sweep count. -/
theorem kernel_keeps_boundary (g : Grid K) (m : VM K) (s e : EF K) (kernel nu : Nat) (ok : Bool)
    (q : Edge) (hq : ¬ Interior g.nx g.ny g.nz q) :
    (runKernel g m s kernel nu (e, ok)).1.get q = e.get q :=
  relaxAll_frame g m s q _ (fun B hB hqB => hq (kernelBlocks_interior _ _ _ _ _ B hB q hqB)) _

theorem smoothing_keeps_boundary (g : Grid K) (m : VM K) (s e : EF K) (nu lr : Nat)
    (q : Edge) (hq : ¬ Interior g.nx g.ny g.nz q) :
    (smoothing g m s e nu lr).1.get q = e.get q :=
  relaxAll_frame g m s q _ (fun B hB hqB => hq (smoothingBlocks_interior _ _ _ _ _ B hB q hqB)) _

/-- **A field that solves the system exactly is left unchanged** — every kernel, forward and
backward ordering, any number of sweeps. -/
theorem kernel_fixed_point (g : Grid K) (m : VM K) (s e : EF K) (kernel nu : Nat) (ok : Bool)
    (hinj : AllInj g m)
    (hsol : ∀ d, Interior g.nx g.ny g.nz d → amatAt g m e d = s.get d) :
    (runKernel g m s kernel nu (e, ok)).1 = e :=
  relaxAll_fixed g m s e _ (hinj kernel nu)
    (fun B hB r hr => hsol r (kernelBlocks_interior _ _ _ _ _ B hB r hr)) ok

theorem smoother_fixed_point (g : Grid K) (m : VM K) (s e : EF K) (nu lr : Nat)
    (hinj : AllInj g m)
    (hsol : ∀ d, Interior g.nx g.ny g.nz d → amatAt g m e d = s.get d) :
    (smoothing g m s e nu lr).1 = e :=
  relaxAll_fixed g m s e _ (hinj.smoothing nu lr)
    (fun B hB r hr => hsol r (smoothingBlocks_interior _ _ _ _ _ B hB r hr)) true

/-- **The equations of the block relaxed last are satisfied exactly afterwards.** -/
theorem smoother_last_block_solved (g : Grid K) (m : VM K) (s e : EF K) (nu lr : Nat)
    (Bs : List (List Edge)) (B : List Edge)
    (hB : smoothingBlocks g.nx g.ny g.nz nu lr = Bs ++ [B])
    (hok : (smoothing g m s e nu lr).2 = true) :
    ∀ r ∈ B, amatAt g m (smoothing g m s e nu lr).1 r = s.get r := by
  unfold smoothing at hok ⊢
  rw [hB] at hok ⊢
  exact relaxAll_last_solved g m s Bs B _ hok

theorem kernel_last_block_solved (g : Grid K) (m : VM K) (s : EF K) (kernel nu : Nat)
    (st : EF K × Bool) (Bs : List (List Edge)) (B : List Edge)
    (hB : kernelBlocks kernel g.nx g.ny g.nz nu = Bs ++ [B])
    (hok : (runKernel g m s kernel nu st).2 = true) :
    ∀ r ∈ B, amatAt g m (runKernel g m s kernel nu st).1 r = s.get r := by
  unfold runKernel at hok ⊢
  rw [hB] at hok ⊢
  exact relaxAll_last_solved g m s Bs B _ hok

/-- **The result is a linear (hence affine) function of (field, source)**: sums … -/
theorem smoother_add (g : Grid K) (m : VM K) (s1 s2 e1 e2 : EF K) (nu lr : Nat) (hinj : AllInj g m)
    (h1 : (smoothing g m s1 e1 nu lr).2 = true) (h2 : (smoothing g m s2 e2 nu lr).2 = true)
    (h12 : (smoothing g m (s1.add s2) (e1.add e2) nu lr).2 = true) :
    (smoothing g m (s1.add s2) (e1.add e2) nu lr).1
      = (smoothing g m s1 e1 nu lr).1.add (smoothing g m s2 e2 nu lr).1 :=
  relaxAll_add g m s1 s2 _ (hinj.smoothing nu lr) e1 e2 true true true h1 h2 h12

/-- … and scalar multiples. -/
theorem smoother_smul (g : Grid K) (m : VM K) (c : K) (s e : EF K) (nu lr : Nat) (hinj : AllInj g m)
    (h1 : (smoothing g m s e nu lr).2 = true)
    (hc : (smoothing g m (EF.smul c s) (EF.smul c e) nu lr).2 = true) :
    (smoothing g m (EF.smul c s) (EF.smul c e) nu lr).1 = EF.smul c (smoothing g m s e nu lr).1 :=
  relaxAll_smul g m c s _ (hinj.smoothing nu lr) e true true h1 hc

theorem kernel_add (g : Grid K) (m : VM K) (s1 s2 e1 e2 : EF K) (kernel nu : Nat) (hinj : AllInj g m)
    (h1 : (runKernel g m s1 kernel nu (e1, true)).2 = true)
    (h2 : (runKernel g m s2 kernel nu (e2, true)).2 = true)
    (h12 : (runKernel g m (s1.add s2) kernel nu (e1.add e2, true)).2 = true) :
    (runKernel g m (s1.add s2) kernel nu (e1.add e2, true)).1
      = (runKernel g m s1 kernel nu (e1, true)).1.add (runKernel g m s2 kernel nu (e2, true)).1 :=
  relaxAll_add g m s1 s2 _ (hinj kernel nu) e1 e2 true true true h1 h2 h12

theorem mem_kernelsOf (k c : ℕ) : k ∈ kernelsOf c ↔
    (c = 0 ∧ k = 0) ∨ (MGH.lrX c = true ∧ k = 1) ∨ (MGH.lrY c = true ∧ k = 2) ∨
      (MGH.lrZ c = true ∧ k = 3) := by
  simp only [kernelsOf, List.mem_append, List.mem_ite_nil_right, List.mem_singleton, beq_iff_eq,
    or_assoc]

/-- **Line relaxation is never applied along a two-cell direction**: the kernels selected by
`smoothing` for code `lr ≤ 7`. -/
theorem smoothing_no_two_cell_line (nx ny nz lr : Nat) (hlr : lr ≤ 7) :
    (1 ∈ kernelsOf (MGH.currentLrDir lr (nx, ny, nz)) → nx ≠ 2) ∧
    (2 ∈ kernelsOf (MGH.currentLrDir lr (nx, ny, nz)) → ny ≠ 2) ∧
    (3 ∈ kernelsOf (MGH.currentLrDir lr (nx, ny, nz)) → nz ≠ 2) := by
  simpa [mem_kernelsOf] using MGH.no_line_relaxation_on_two_cells lr hlr (nx, ny, nz)

/-! ## the banded symmetric solver -/

/-- **`core.solve` (model `LdltM.solve` on the banded storage `A(i,j) → amat[i+5j]`) returns the
exact solution of the banded symmetric system it is given**, for every number of unknowns,
provided no pivot vanishes (the function's documented precondition). -/
theorem solveBanded_exact (amat : Array K) (b : Nat → K) (n : Nat)
    (hp : ∀ d ∈ LdltM.pivots (LdltM.ofBanded amat) n, d ≠ 0) (i : Nat) (hi : i < n) :
    LdltM.sumTo n (fun j => LdltM.full (LdltM.ofBanded amat) i j *
      LdltM.solve (LdltM.ofBanded amat) b n j) = b i :=
  Ldlt.model_solve_exact _ b n hp i hi

end Emg
