import Emg3dVerif.Props.C03
import Mathlib.Tactic.Linarith
/-!
Edge fields edge by edge.  `PEC`, `edgeDot` and `massDot` are written out per component; here
they are read through `Edge`: a PEC field is one that vanishes on the boundary edges (`pec_iff`),
and the pairings are sums of a function of the edge over all edges of the grid (`edgeSum`).  The
sign arguments of the energy theorems (Coercive, SmoothEnergy, SmoothStrict) are then statements
about one term of such a sum.
-/
namespace Emg
open Finset

/-! ## the edges of the grid, its boundary edges, `PEC` edge by edge -/
section box
variable {K : Type} {g : Grid K}

/-- the index ranges of `edgeDot`: all edges of the grid -/
def InBox (g : Grid K) (q : Edge) : Prop :=
  match q.c with
  | .x => q.i < g.nx ∧ q.j < g.ny + 1 ∧ q.k < g.nz + 1
  | .y => q.i < g.nx + 1 ∧ q.j < g.ny ∧ q.k < g.nz + 1
  | .z => q.i < g.nx + 1 ∧ q.j < g.ny + 1 ∧ q.k < g.nz

/-- the index sets of the twelve clauses of `PEC` -/
def Bdry (g : Grid K) (q : Edge) : Prop :=
  match q.c with
  | .x => q.j = 0 ∨ q.j = g.ny ∨ q.k = 0 ∨ q.k = g.nz
  | .y => q.i = 0 ∨ q.i = g.nx ∨ q.k = 0 ∨ q.k = g.nz
  | .z => q.i = 0 ∨ q.i = g.nx ∨ q.j = 0 ∨ q.j = g.ny

theorem pec_iff [Field K] {e : EF K} : PEC g e ↔ ∀ q, Bdry g q → e.get q = 0 := by
  constructor
  · intro hp q hq
    obtain ⟨c, i, j, k⟩ := q
    cases c <;> simp only [Bdry] at hq <;> simp only [EF.get]
    · rcases hq with rfl | rfl | rfl | rfl
      exacts [hp.x_j0 _ _, hp.x_jn _ _, hp.x_k0 _ _, hp.x_kn _ _]
    · rcases hq with rfl | rfl | rfl | rfl
      exacts [hp.y_i0 _ _, hp.y_in _ _, hp.y_k0 _ _, hp.y_kn _ _]
    · rcases hq with rfl | rfl | rfl | rfl
      exacts [hp.z_i0 _ _, hp.z_in _ _, hp.z_j0 _ _, hp.z_jn _ _]
  · intro h
    exact
      { x_j0 := fun i k => h ⟨.x, i, 0, k⟩ (.inl rfl)
        x_jn := fun i k => h ⟨.x, i, g.ny, k⟩ (.inr (.inl rfl))
        x_k0 := fun i j => h ⟨.x, i, j, 0⟩ (.inr (.inr (.inl rfl)))
        x_kn := fun i j => h ⟨.x, i, j, g.nz⟩ (.inr (.inr (.inr rfl)))
        y_i0 := fun j k => h ⟨.y, 0, j, k⟩ (.inl rfl)
        y_in := fun j k => h ⟨.y, g.nx, j, k⟩ (.inr (.inl rfl))
        y_k0 := fun i j => h ⟨.y, i, j, 0⟩ (.inr (.inr (.inl rfl)))
        y_kn := fun i j => h ⟨.y, i, j, g.nz⟩ (.inr (.inr (.inr rfl)))
        z_i0 := fun j k => h ⟨.z, 0, j, k⟩ (.inl rfl)
        z_in := fun j k => h ⟨.z, g.nx, j, k⟩ (.inr (.inl rfl))
        z_j0 := fun i k => h ⟨.z, i, 0, k⟩ (.inr (.inr (.inl rfl)))
        z_jn := fun i k => h ⟨.z, i, g.ny, k⟩ (.inr (.inr (.inr rfl))) }

theorem Bdry.not_interior {q : Edge} (h : Bdry g q) : ¬ Interior g.nx g.ny g.nz q := by
  obtain ⟨c, i, j, k⟩ := q
  cases c <;> simp only [Bdry] at h <;> simp only [Interior] <;> omega

theorem bdry_of_inBox {q : Edge} (hb : InBox g q) (hq : ¬ Interior g.nx g.ny g.nz q) :
    Bdry g q := by
  obtain ⟨c, i, j, k⟩ := q
  cases c <;> simp only [InBox] at hb <;> simp only [Interior] at hq <;> simp only [Bdry] <;> omega

theorem interior_inBox {q : Edge} (hq : Interior g.nx g.ny g.nz q) : InBox g q := by
  obtain ⟨c, i, j, k⟩ := q
  cases c <;> simp only [Interior] at hq <;> simp only [InBox] <;> omega

/-- a PEC field vanishes on every edge of the grid that is not interior -/
theorem PEC.get_zero [Field K] {e : EF K} (hp : PEC g e) {q : Edge} (hb : InBox g q)
    (hq : ¬ Interior g.nx g.ny g.nz q) : e.get q = 0 :=
  pec_iff.1 hp q (bdry_of_inBox hb hq)

/-- a field that vanishes outside the interior edges is PEC -/
theorem pec_of_nonint [Field K] {e : EF K} (h : ∀ q, ¬ Interior g.nx g.ny g.nz q → e.get q = 0) :
    PEC g e :=
  pec_iff.2 fun q hq => h q hq.not_interior

end box

/-! ## sums over all edges -/
section sums
variable {K R : Type} [CommRing R]

/-- sum over all edges of the grid (the sizes of `g` only; the terms may live in another ring) -/
def edgeSum (g : Grid K) (f : Edge → R) : R :=
  S3 g.nx (g.ny+1) (g.nz+1) (fun i j k => f ⟨.x, i, j, k⟩) +
  S3 (g.nx+1) g.ny (g.nz+1) (fun i j k => f ⟨.y, i, j, k⟩) +
  S3 (g.nx+1) (g.ny+1) g.nz (fun i j k => f ⟨.z, i, j, k⟩)

/-- the edge mass `meX/Y/Z` of an edge -/
def meAt [Field K] (m : VM K) (q : Edge) : K :=
  match q.c with
  | .x => meX m q.i q.j q.k
  | .y => meY m q.i q.j q.k
  | .z => meZ m q.i q.j q.k

theorem edgeDot_eq [Field K] (g : Grid K) (a b : EF K) :
    edgeDot g a b = edgeSum g fun q => a.get q * b.get q := rfl

theorem massDot_eq [Field K] (g : Grid K) (m : VM K) (a b : EF K) :
    massDot g m a b = edgeSum g fun q => meAt m q * a.get q * b.get q := rfl

theorem edgeSum_congr (g : Grid K) (f h : Edge → R) (e : ∀ q, InBox g q → f q = h q) :
    edgeSum g f = edgeSum g h := by
  unfold edgeSum
  rw [S3_congr_mem _ _ _ (fun i j k => f ⟨.x, i, j, k⟩) (fun i j k => h ⟨.x, i, j, k⟩)
      fun i j k hi hj hk => e ⟨.x, i, j, k⟩ ⟨hi, hj, hk⟩,
    S3_congr_mem _ _ _ (fun i j k => f ⟨.y, i, j, k⟩) (fun i j k => h ⟨.y, i, j, k⟩)
      fun i j k hi hj hk => e ⟨.y, i, j, k⟩ ⟨hi, hj, hk⟩,
    S3_congr_mem _ _ _ (fun i j k => f ⟨.z, i, j, k⟩) (fun i j k => h ⟨.z, i, j, k⟩)
      fun i j k hi hj hk => e ⟨.z, i, j, k⟩ ⟨hi, hj, hk⟩]

theorem edgeSum_zero (g : Grid K) (f : Edge → R) (h : ∀ q, InBox g q → f q = 0) :
    edgeSum g f = 0 := by
  unfold edgeSum
  rw [S3_zero _ _ _ _ fun i j k hi hj hk => h ⟨.x, i, j, k⟩ ⟨hi, hj, hk⟩,
    S3_zero _ _ _ _ fun i j k hi hj hk => h ⟨.y, i, j, k⟩ ⟨hi, hj, hk⟩,
    S3_zero _ _ _ _ fun i j k hi hj hk => h ⟨.z, i, j, k⟩ ⟨hi, hj, hk⟩, add_zero, add_zero]

/-- the pairing of two fields vanishes when, on every edge of the grid, one of the two does -/
theorem edgeDot_zero_of_pointwise [Field K] {g : Grid K} (a b : EF K)
    (h : ∀ q, InBox g q → a.get q * b.get q = 0) : edgeDot g a b = 0 := by
  rw [edgeDot_eq]
  exact edgeSum_zero g _ h

theorem map_edgeSum {R' : Type} [CommRing R'] (L : R →+ R') (g : Grid K) (f : Edge → R) :
    L (edgeSum g f) = edgeSum g fun q => L (f q) := by
  simp only [edgeSum, map_add, map_S3]

variable [LinearOrder R] [IsStrictOrderedRing R]

theorem edgeSum_nonpos (g : Grid K) (f : Edge → R) (h : ∀ q, InBox g q → f q ≤ 0) :
    edgeSum g f ≤ 0 :=
  add_nonpos (add_nonpos
    (S3_nonpos _ _ _ _ fun i j k hi hj hk => h ⟨.x, i, j, k⟩ ⟨hi, hj, hk⟩)
    (S3_nonpos _ _ _ _ fun i j k hi hj hk => h ⟨.y, i, j, k⟩ ⟨hi, hj, hk⟩))
    (S3_nonpos _ _ _ _ fun i j k hi hj hk => h ⟨.z, i, j, k⟩ ⟨hi, hj, hk⟩)

/-- non-positive terms with a non-negative sum all vanish -/
theorem edgeSum_terms_zero (g : Grid K) (f : Edge → R) (h : ∀ q, InBox g q → f q ≤ 0)
    (hs : 0 ≤ edgeSum g f) : ∀ q, InBox g q → f q = 0 := by
  have hx : ∀ i j k, i < g.nx → j < g.ny+1 → k < g.nz+1 → f ⟨.x, i, j, k⟩ ≤ 0 :=
    fun i j k hi hj hk => h ⟨.x, i, j, k⟩ ⟨hi, hj, hk⟩
  have hy : ∀ i j k, i < g.nx+1 → j < g.ny → k < g.nz+1 → f ⟨.y, i, j, k⟩ ≤ 0 :=
    fun i j k hi hj hk => h ⟨.y, i, j, k⟩ ⟨hi, hj, hk⟩
  have hz : ∀ i j k, i < g.nx+1 → j < g.ny+1 → k < g.nz → f ⟨.z, i, j, k⟩ ≤ 0 :=
    fun i j k hi hj hk => h ⟨.z, i, j, k⟩ ⟨hi, hj, hk⟩
  have sx := S3_nonpos _ _ _ _ hx
  have sy := S3_nonpos _ _ _ _ hy
  have sz := S3_nonpos _ _ _ _ hz
  unfold edgeSum at hs
  intro q hq
  obtain ⟨c, i, j, k⟩ := q
  cases c
  · exact S3_eq_zero_of_nonpos _ _ _ _ hx (by linarith) i j k hq.1 hq.2.1 hq.2.2
  · exact S3_eq_zero_of_nonpos _ _ _ _ hy (by linarith) i j k hq.1 hq.2.1 hq.2.2
  · exact S3_eq_zero_of_nonpos _ _ _ _ hz (by linarith) i j k hq.1 hq.2.1 hq.2.2

end sums

/-! ## averages of cell values inherit what sums and halving / quartering preserve -/
section averages
variable {K : Type} [Field K] {g : Grid K} {m : VM K}

theorem meAt_closed (P : K → Prop) (hadd : ∀ x y, P x → P y → P (x + y))
    (hdiv : ∀ x, P x → P (x / 4))
    (hX : ∀ i j k, i < g.nx → j < g.ny → k < g.nz → P (m.etaX i j k))
    (hY : ∀ i j k, i < g.nx → j < g.ny → k < g.nz → P (m.etaY i j k))
    (hZ : ∀ i j k, i < g.nx → j < g.ny → k < g.nz → P (m.etaZ i j k))
    (q : Edge) (hq : Interior g.nx g.ny g.nz q) : P (meAt m q) := by
  have avg : ∀ a b c d, P a → P b → P c → P d → P ((a + b + c + d) / 4) :=
    fun _ _ _ _ ha hb hc hd => hdiv _ (hadd _ _ (hadd _ _ (hadd _ _ ha hb) hc) hd)
  obtain ⟨c, i, j, k⟩ := q
  cases c <;> simp only [Interior] at hq
  · show P (meX m i j k)
    exact avg _ _ _ _ (hX _ _ _ hq.1 (by omega) (by omega)) (hX _ _ _ hq.1 (by omega) (by omega))
      (hX _ _ _ hq.1 (by omega) (by omega)) (hX _ _ _ hq.1 (by omega) (by omega))
  · show P (meY m i j k)
    exact avg _ _ _ _ (hY _ _ _ (by omega) hq.2.2.1 (by omega))
      (hY _ _ _ (by omega) hq.2.2.1 (by omega)) (hY _ _ _ (by omega) hq.2.2.1 (by omega))
      (hY _ _ _ (by omega) hq.2.2.1 (by omega))
  · show P (meZ m i j k)
    exact avg _ _ _ _ (hZ _ _ _ (by omega) (by omega) hq.2.2.2.2)
      (hZ _ _ _ (by omega) (by omega) hq.2.2.2.2) (hZ _ _ _ (by omega) (by omega) hq.2.2.2.2)
      (hZ _ _ _ (by omega) (by omega) hq.2.2.2.2)

theorem mf_closed (P : K → Prop) (hadd : ∀ x y, P x → P y → P (x + y))
    (hdiv : ∀ x, P x → P (x / 2)) (hz : ∀ i j k, P (m.zeta i j k)) (i j k : ℕ) :
    P (mfX m i j k) ∧ P (mfY m i j k) ∧ P (mfZ m i j k) :=
  ⟨hdiv _ (hadd _ _ (hz _ _ _) (hz _ _ _)), hdiv _ (hadd _ _ (hz _ _ _) (hz _ _ _)),
    hdiv _ (hadd _ _ (hz _ _ _) (hz _ _ _))⟩

end averages

end Emg
