import Emg3dVerif.Model.Gridding
import Mathlib.Algebra.Order.Field.Basic
import Mathlib.Data.List.Chain
import Mathlib.Tactic.Ring
import Mathlib.Tactic.Linarith
import Mathlib.Tactic.Positivity
/-! Helper lemmas for C16 (geometric widths, sums, nodes, chains). -/
set_option linter.unusedSectionVars false
namespace Grd
variable {K : Type} [Field K] [LinearOrder K] [IsStrictOrderedRing K]

@[simp] theorem sum_nil : sum ([] : List K) = 0 := rfl
@[simp] theorem sum_cons (a : K) (t : List K) : sum (a :: t) = a + sum t := rfl

/-- the model's own `sum` (the model is Mathlib-free) is `List.sum` -/
theorem sum_eq (l : List K) : sum l = l.sum := by
  induction l with
  | nil => rfl
  | cons a t ih => rw [sum, ih, List.sum_cons]

theorem sum_append (l1 l2 : List K) : sum (l1 ++ l2) = sum l1 + sum l2 := by
  simp only [sum_eq, List.sum_append]

theorem sum_reverse (l : List K) : sum l.reverse = sum l := by
  simp only [sum_eq, List.sum_reverse]

@[simp] theorem geo_length (w α : K) (n : Nat) : (geo w α n).length = n := by
  induction n generalizing w with
  | zero => rfl
  | succ n ih => simp [geo, ih]

theorem geo_take (w α : K) (n m : Nat) : (geo w α n).take m = geo w α (min m n) := by
  induction n generalizing w m with
  | zero => simp [geo]
  | succ n ih =>
    cases m with
    | zero => simp [geo]
    | succ m =>
      simp only [geo, List.take_succ_cons, ih]
      have : min (m+1) (n+1) = min m n + 1 := by omega
      rw [this, geo]

theorem geo_pos {w α : K} (hw : 0 < w) (hα : 0 < α) (n : Nat) : ∀ x ∈ geo w α n, 0 < x := by
  induction n generalizing w with
  | zero => simp [geo]
  | succ n ih =>
    intro x hx
    simp only [geo, List.mem_cons] at hx
    rcases hx with rfl | hx
    · positivity
    · exact ih (by positivity) x hx

/-- more geometric cells reach further -/
theorem sum_geo_mono {w α : K} (hw : 0 < w) (hα : 0 < α) {m n : Nat} (h : m ≤ n) :
    sum (geo w α m) ≤ sum (geo w α n) := by
  have := (List.take_sublist_take_left (l := geo w α n) h).sum_le_sum
    fun a ha => (geo_pos hw hα n a (List.mem_of_mem_take ha)).le
  rwa [geo_take, geo_take, Nat.min_eq_left h, Nat.min_self, ← sum_eq, ← sum_eq] at this

theorem geo_head (w α : K) (n : Nat) : ∀ y ∈ (geo w α n).head?, y = w * α := by
  cases n with
  | zero => simp [geo]
  | succ n => simp [geo]

/-- neighbouring widths differ by at most the factor `β` -/
def Within (β : K) (a b : K) : Prop := a ≤ β * b ∧ b ≤ β * a

theorem Within.symm {β a b : K} (h : Within β a b) : Within β b a := ⟨h.2, h.1⟩

theorem within_mul {β α w : K} (hw : 0 < w) (h1 : 1 ≤ α) (h2 : α ≤ β) :
    Within β w (w * α) := by
  constructor
  · calc w = w * 1 := (mul_one w).symm
      _ ≤ w * (β * α) :=
        mul_le_mul_of_nonneg_left (one_le_mul_of_one_le_of_one_le (h1.trans h2) h1) hw.le
      _ = β * (w * α) := mul_left_comm ..
  · rw [mul_comm β]
    exact mul_le_mul_of_nonneg_left h2 hw.le

theorem geo_chain {β α w : K} (hw : 0 < w) (h1 : 1 ≤ α) (h2 : α ≤ β) (n : Nat) :
    (geo w α n).IsChain (Within β) := by
  induction n generalizing w with
  | zero => simp [geo]
  | succ n ih =>
    have hp : 0 < w * α := by positivity
    simp only [geo]
    refine (ih hp).cons ?_
    intro y hy
    rw [geo_head _ _ _ y hy]
    exact within_mul hp h1 h2

theorem isChain_reverse_symm {R : K → K → Prop} (hs : ∀ a b, R a b → R b a) {l : List K}
    (h : l.IsChain R) : l.reverse.IsChain R := by
  rw [List.isChain_reverse]
  exact h.imp (fun a b hab => hs a b hab)

/-! ### nodes -/

theorem nodes_cons (a b : K) (t : List K) : nodes a (b :: t) = a :: nodes (a + b) t := rfl

theorem mem_nodes_append_right (a : K) (l1 l2 : List K) {x : K}
    (h : x ∈ nodes (a + sum l1) l2) : x ∈ nodes a (l1 ++ l2) := by
  induction l1 generalizing a with
  | nil => simpa using h
  | cons b t ih =>
    rw [List.cons_append, nodes_cons]
    refine List.mem_cons_of_mem _ (ih (a + b) ?_)
    have : a + b + sum t = a + sum (b :: t) := by simp [add_assoc]
    rw [this]; exact h

theorem mem_nodes_append_left (a : K) (l1 l2 : List K) {x : K}
    (h : x ∈ nodes a l1) : x ∈ nodes a (l1 ++ l2) := by
  induction l1 generalizing a with
  | nil =>
    simp only [nodes, cumsFrom, List.mem_singleton] at h
    subst h
    cases l2 <;> simp [nodes]
  | cons b t ih =>
    rw [nodes_cons] at h
    rw [List.cons_append, nodes_cons]
    rcases List.mem_cons.1 h with rfl | h
    · simp
    · exact List.mem_cons_of_mem _ (ih (a + b) h)

theorem end_mem_nodes (a : K) (l : List K) : a + sum l ∈ nodes a l := by
  induction l generalizing a with
  | nil => simp [nodes, cumsFrom]
  | cons b t ih =>
    rw [nodes_cons]
    have : a + sum (b :: t) = a + b + sum t := by simp [add_assoc]
    rw [this]
    exact List.mem_cons_of_mem _ (ih (a + b))

theorem start_mem_nodes (a : K) (l : List K) : a ∈ nodes a l := by
  simp [nodes]

end Grd
