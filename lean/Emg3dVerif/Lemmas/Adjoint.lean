import Mathlib.Data.Complex.Basic
import Mathlib.Data.Complex.BigOperators
import Mathlib.Data.Matrix.Mul
import Mathlib.Data.Matrix.Diagonal
import Mathlib.Tactic.Ring
import Mathlib.Tactic.LinearCombination
import Mathlib.Tactic.NoncommRing
import Mathlib.Algebra.BigOperators.Ring.Finset
/-!
Specification of the sensitivity products (C07 / C08) in matrix form over ℂ.

`E` edges, `C` model parameters (cells × anisotropy components), `D` data.  The system matrix is
`A σ = A₀ + diag(c · G σ)` (`c = sμ₀`, `G` = cell → edge volume averaging, C02), the field
`e = A⁻¹ s`, the data `d = P e` (`P` = receiver rows, C09).
-/
open Matrix BigOperators

namespace Adj
variable {E C D : Type} [Fintype E] [Fintype C] [Fintype D] [DecidableEq E]

/-- `J v = k · P A⁻¹ (e ⊙ G v)` (`k = −sμ₀`): what `Simulation.jvec` computes -/
noncomputable def jvec (k : ℂ) (P : Matrix D E ℂ) (Ainv : Matrix E E ℂ) (e : E → ℂ)
    (G : Matrix E C ℂ) (v : C → ℝ) : D → ℂ :=
  k • P *ᵥ (Ainv *ᵥ (fun ed => e ed * (G *ᵥ (fun c => (v c : ℂ))) ed))

/-- what `Simulation.jtvec` computes before taking the real part: back-propagate
`Pᵀ conj(w)`, multiply with the forward field, average to the cells -/
noncomputable def jtvecC (k : ℂ) (P : Matrix D E ℂ) (Ainv : Matrix E E ℂ) (e : E → ℂ)
    (G : Matrix E C ℂ) (w : D → ℂ) : C → ℂ :=
  fun c => k * ∑ ed, G ed c * e ed * (Ainv *ᵥ (Pᵀ *ᵥ (fun i => star (w i)))) ed

noncomputable def jtvec (k : ℂ) (P : Matrix D E ℂ) (Ainv : Matrix E E ℂ) (e : E → ℂ)
    (G : Matrix E C ℂ) (w : D → ℂ) : C → ℝ := fun c => (jtvecC k P Ainv e G w c).re

/-- the sensitivity matrix `J = k · P A⁻¹ diag(e) G`: `jvec` is `J ·`, `jtvecC` is `· J` (for
symmetric `A⁻¹`), so adjointness, gridding and the derivative are facts about one matrix -/
noncomputable def jac (k : ℂ) (P : Matrix D E ℂ) (Ainv : Matrix E E ℂ) (e : E → ℂ)
    (G : Matrix E C ℂ) : Matrix D C ℂ := k • (P * Ainv * diagonal e * G)

omit [Fintype D] in
theorem jvec_eq (k : ℂ) (P : Matrix D E ℂ) (Ainv : Matrix E E ℂ) (e : E → ℂ) (G : Matrix E C ℂ)
    (v : C → ℝ) : jvec k P Ainv e G v = jac k P Ainv e G *ᵥ (fun c => (v c : ℂ)) := by
  simp only [jac, jvec, Matrix.smul_mulVec, ← Matrix.mulVec_mulVec]
  congr
  funext ed
  exact (mulVec_diagonal e _ ed).symm

omit [Fintype C] in
theorem jtvecC_eq (k : ℂ) (P : Matrix D E ℂ) (Ainv : Matrix E E ℂ) (e : E → ℂ) (G : Matrix E C ℂ)
    (w : D → ℂ) : jtvecC k P Ainv e G w = (fun i => star (w i)) ᵥ* jac k P Ainvᵀ e G := by
  funext c
  simp only [jac, jtvecC, Matrix.vecMul_smul, ← Matrix.vecMul_vecMul, Matrix.vecMul_transpose,
    Matrix.mulVec_transpose, Pi.smul_apply, smul_eq_mul]
  congr 1
  refine Finset.sum_congr rfl fun ed _ => ?_
  rw [vecMul_diagonal]
  ring

omit [Fintype C] [Fintype D] in
theorem jac_mul {C' : Type} [Fintype C'] (k : ℂ) (P : Matrix D E ℂ) (Ainv : Matrix E E ℂ)
    (e : E → ℂ) (G : Matrix E C' ℂ) (V : Matrix C' C ℂ) :
    jac k P Ainv e (G * V) = jac k P Ainv e G * V := by
  rw [jac, jac, Matrix.smul_mul, Matrix.mul_assoc _ G V]

theorem pairing_complex (k : ℂ) (P : Matrix D E ℂ) (Ainv : Matrix E E ℂ) (hs : Ainvᵀ = Ainv)
    (e : E → ℂ) (G : Matrix E C ℂ) (v : C → ℝ) (w : D → ℂ) :
    (∑ i, star (w i) * jvec k P Ainv e G v i) = ∑ c, jtvecC k P Ainv e G w c * (v c : ℂ) := by
  rw [jvec_eq, jtvecC_eq, hs]
  exact dotProduct_mulVec _ _ _

/-- the resolvent identity behind every finite-difference statement -/
theorem resolvent {A B DA Ainv Binv : Matrix E E ℂ} {t : ℂ}
    (hA : Ainv * A = 1) (hB : B * Binv = 1) (hBA : B = A + t • DA) :
    Binv = Ainv - t • (Ainv * DA * Binv) := by
  have h1 : Ainv * B * Binv = Ainv := by rw [Matrix.mul_assoc, hB, Matrix.mul_one]
  have h2 : Ainv * B * Binv = Binv + t • (Ainv * DA * Binv) := by
    rw [hBA, Matrix.mul_add, Matrix.add_mul, hA, Matrix.one_mul, Matrix.mul_smul,
      Matrix.smul_mul]
  rw [h1] at h2
  exact eq_sub_of_add_eq h2.symm

theorem resolvent2 {A B DA Ainv Binv : Matrix E E ℂ} {t : ℂ}
    (hA : Ainv * A = 1) (hB : B * Binv = 1) (hBA : B = A + t • DA) :
    Binv = Ainv - t • (Ainv * DA * Ainv) + (t * t) • (Ainv * DA * Ainv * DA * Binv) := by
  have r := resolvent hA hB hBA
  have : Ainv * DA * Binv = Ainv * DA * Ainv - t • (Ainv * DA * Ainv * DA * Binv) := by
    conv_lhs => rw [r]
    rw [Matrix.mul_sub, Matrix.mul_smul]
    simp only [Matrix.mul_assoc]
  conv_lhs => rw [r, this]
  rw [smul_sub, smul_smul]
  abel

end Adj
