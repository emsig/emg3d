/-!
Reading a list back through its positions: the one list fact shared by the models that address
data by index (`PMap.collectOrdered`, `NoiseM.restrictTo`). Core Lean only.
-/

theorem List.map_getD_range {α : Type} (l : List α) (d : α) :
    (List.range l.length).map (l.getD · d) = l := by
  induction l with
  | nil => rfl
  | cons a t ih =>
    rw [List.length_cons, List.range_succ_eq_map, List.map_cons, List.map_map]
    exact congrArg (a :: ·) ih
