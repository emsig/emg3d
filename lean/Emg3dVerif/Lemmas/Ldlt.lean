import Emg3dVerif.Model.Ldlt
import Mathlib.Algebra.BigOperators.Intervals
import Mathlib.Algebra.BigOperators.Ring.Finset
import Mathlib.Tactic.Ring
import Mathlib.Tactic.FieldSimp
import Mathlib.Tactic.LinearCombination
import Mathlib.Algebra.Field.Basic
/-!
Exactness of the pivot-free L D Lᵀ solver for every size `n` (helper development for C03):
the recurrences are first studied in `Finset.sum` form (`tab`, `fwdTab`, `backTab`), then the
executable model of `Model/Ldlt.lean` is shown to compute the same functions.
-/
open Finset

namespace Emg.Ldlt
variable {K : Type} [Field K]

/-- a table built level by level whose entry of level `k` is final after step `k` -/
theorem stable_of_step {α : Type} (T : ℕ → α) (k : ℕ) (h : ∀ m, k < m → T (m+1) = T m) :
    ∀ m, k < m → T m = T (k+1) := by
  intro m hm
  induction m, hm using Nat.le_induction with
  | base => rfl
  | succ m hm ih => rw [h m hm, ih]

/-- a sum whose terms vanish above `j` -/
theorem sum_range_of_upper_zero (f : ℕ → K) {j n : ℕ} (hj : j < n) (h : ∀ p, j < p → f p = 0) :
    ∑ p ∈ range n, f p = ∑ p ∈ range (j+1), f p :=
  (sum_subset (range_subset_range.2 hj) fun p _ hp => h p (by simpa using hp)).symm

/-- table of factor columns `< m`: entry (i,k) is `D k` if `i = k` and `L i k` if `i > k` -/
def tab (a : ℕ → ℕ → K) : ℕ → ℕ → ℕ → K
  | 0 => fun _ _ => 0
  | m+1 => fun i k =>
      if k < m then tab a m i k
      else if k = m ∧ m ≤ i then
        let d := a m m - ∑ p ∈ range m, tab a m m p * tab a m m p * tab a m p p
        if i = m then d
        else (a i m - ∑ p ∈ range m, tab a m i p * tab a m m p * tab a m p p) / d
      else 0

def D (a : ℕ → ℕ → K) (j : ℕ) : K := tab a (j+1) j j
def L (a : ℕ → ℕ → K) (i j : ℕ) : K := tab a (j+1) i j

theorem tab_eq_L (a : ℕ → ℕ → K) {k m : ℕ} (hm : k < m) (i : ℕ) : tab a m i k = L a i k :=
  stable_of_step (fun m => tab a m i k) k (fun m hm => by simp only [tab, hm, if_true]) m hm

/-- the step of `tab`, read in terms of the finished columns `L`, `D` -/
theorem tab_succ (a : ℕ → ℕ → K) (i j : ℕ) (h : j ≤ i) :
    tab a (j+1) i j = if i = j then a j j - ∑ p ∈ range j, L a j p * L a j p * D a p
      else (a i j - ∑ p ∈ range j, L a i p * L a j p * D a p) / D a j := by
  have e : ∀ i', ∑ p ∈ range j, tab a j i' p * tab a j j p * tab a j p p
      = ∑ p ∈ range j, L a i' p * L a j p * D a p := fun i' =>
    sum_congr rfl fun p hp => by
      have hp := mem_range.1 hp
      rw [tab_eq_L a hp i', tab_eq_L a hp j, tab_eq_L a hp p]; rfl
  simp only [tab, lt_irrefl, if_false, true_and, h, if_true, e, D, le_refl]

theorem D_eq (a : ℕ → ℕ → K) (j : ℕ) :
    D a j = a j j - ∑ p ∈ range j, L a j p * L a j p * D a p := by
  rw [D, tab_succ a j j le_rfl, if_pos rfl]

theorem L_eq (a : ℕ → ℕ → K) (i j : ℕ) (h : j < i) :
    L a i j = (a i j - ∑ p ∈ range j, L a i p * L a j p * D a p) / D a j := by
  rw [L, tab_succ a i j h.le, if_neg h.ne']

/-- unit-lower version -/
def L1 (a : ℕ → ℕ → K) (i j : ℕ) : K := if i = j then 1 else if j < i then L a i j else 0

theorem L1_self (a : ℕ → ℕ → K) (i : ℕ) : L1 a i i = 1 := if_pos rfl
theorem L1_lower (a : ℕ → ℕ → K) {i p : ℕ} (h : p < i) : L1 a i p = L a i p := by
  rw [L1, if_neg h.ne', if_pos h]
theorem L1_upper (a : ℕ → ℕ → K) {i p : ℕ} (h : i < p) : L1 a i p = 0 := by
  rw [L1, if_neg h.ne, if_neg h.not_gt]

/-- A = L D Lᵀ on the lower triangle -/
theorem ldlt_lower (a : ℕ → ℕ → K) (i j : ℕ) (hD : D a j ≠ 0) (hij : j ≤ i) :
    a i j = ∑ p ∈ range (j+1), L1 a i p * D a p * L1 a j p := by
  have hs : ∑ p ∈ range j, L1 a i p * D a p * L1 a j p = ∑ p ∈ range j, L a i p * L a j p * D a p :=
    sum_congr rfl fun p hp => by
      have hp := mem_range.1 hp
      rw [L1_lower a hp, L1_lower a (hp.trans_le hij), mul_right_comm]
  rw [sum_range_succ, hs, L1_self, mul_one]
  rcases hij.eq_or_lt with rfl | h
  · rw [L1_self, one_mul, D_eq, add_sub_cancel]
  · rw [L1_lower a h, L_eq a i j h, div_mul_cancel₀ _ hD, add_sub_cancel]

def Afull (a : ℕ → ℕ → K) (i j : ℕ) : K := if j ≤ i then a i j else a j i

theorem Afull_eq (a : ℕ → ℕ → K) (n : ℕ) (hD : ∀ j < n, D a j ≠ 0) (i j : ℕ) (hi : i < n)
    (hj : j < n) : Afull a i j = ∑ p ∈ range n, L1 a i p * D a p * L1 a j p := by
  have key : ∀ i j, j ≤ i → i < n →
      a i j = ∑ p ∈ range n, L1 a i p * D a p * L1 a j p := fun i j hji hi => by
    rw [ldlt_lower a i j (hD j (hji.trans_lt hi)) hji,
      sum_range_of_upper_zero _ (hji.trans_lt hi) fun p hp => by rw [L1_upper a hp, mul_zero]]
  unfold Afull
  split
  · exact key i j ‹_› hi
  · rw [key j i (by omega) hj]
    exact sum_congr rfl fun p _ => by ring

/-- forward substitution table: `y p` for `p < m` -/
def fwdTab (a : ℕ → ℕ → K) (b : ℕ → K) : ℕ → ℕ → K
  | 0 => fun _ => 0
  | m+1 => fun i => if i < m then fwdTab a b m i
                    else b m - ∑ p ∈ range m, L a m p * fwdTab a b m p

theorem fwdTab_stable (a : ℕ → ℕ → K) (b : ℕ → K) (i m : ℕ) (hm : i < m) :
    fwdTab a b m i = fwdTab a b (i+1) i :=
  stable_of_step (fun m => fwdTab a b m i) i (fun m hm => by simp only [fwdTab, hm, if_true]) m hm

def y (a : ℕ → ℕ → K) (b : ℕ → K) (i : ℕ) : K := fwdTab a b (i+1) i

theorem y_eq (a : ℕ → ℕ → K) (b : ℕ → K) (i : ℕ) :
    y a b i = b i - ∑ p ∈ range i, L a i p * y a b p := by
  unfold y
  rw [fwdTab]; simp only [lt_irrefl, if_false]
  congr 1
  apply sum_congr rfl; intro p hp
  rw [fwdTab_stable a b p i (mem_range.1 hp)]

/-- back substitution for `n` unknowns; `backTab m i` is final for `i ≥ n − m` -/
def backTab (a : ℕ → ℕ → K) (z : ℕ → K) (n : ℕ) : ℕ → ℕ → K
  | 0 => fun _ => 0
  | m+1 => fun i => if n - (m+1) < i then backTab a z n m i
                    else z (n-(m+1)) - ∑ p ∈ Ioo (n-(m+1)) n, L a p (n-(m+1)) * backTab a z n m p

theorem backTab_stable (a : ℕ → ℕ → K) (z : ℕ → K) (n i : ℕ) (hi : i < n) :
    ∀ m, n - i ≤ m → m ≤ n → backTab a z n m i = backTab a z n (n-i) i := by
  intro m hm
  induction m with
  | zero => intro; omega
  | succ m ih =>
    intro hmn
    by_cases h : n - i ≤ m
    · rw [backTab]
      have : n - (m+1) < i := by omega
      simp only [this, if_true]; exact ih h (by omega)
    · have : n - i = m+1 := by omega
      rw [this]

def x (a : ℕ → ℕ → K) (z : ℕ → K) (n i : ℕ) : K := backTab a z n (n-i) i

theorem x_eq (a : ℕ → ℕ → K) (z : ℕ → K) (n i : ℕ) (hi : i < n) :
    x a z n i = z i - ∑ p ∈ Ioo i n, L a p i * x a z n p := by
  unfold x
  obtain ⟨m, hm⟩ : ∃ m, n - i = m + 1 := ⟨n - i - 1, by omega⟩
  have e : n - (m+1) = i := by omega
  rw [hm, backTab]
  simp only [e, lt_irrefl, if_false]
  refine congrArg (z i - ·) (sum_congr rfl fun p hp => ?_)
  have hp := mem_Ioo.1 hp
  rw [backTab_stable a z n p hp.2 m (by omega) (by omega)]

/-- the computed solution -/
def sol (a : ℕ → ℕ → K) (b : ℕ → K) (n : ℕ) : ℕ → K :=
  x a (fun i => y a b i / D a i) n

theorem Lt_x (a : ℕ → ℕ → K) (z : ℕ → K) (n p : ℕ) (hp : p < n) :
    ∑ j ∈ range n, L1 a j p * x a z n j = z p := by
  rw [range_eq_Ico, ← sum_Ico_consecutive _ (Nat.zero_le p) hp.le,
    sum_eq_zero fun j hj => by rw [L1_upper a (mem_Ico.1 hj).2, zero_mul],
    sum_eq_sum_Ico_succ_bot hp, L1_self, Ico_add_one_left_eq_Ioo,
    sum_congr rfl fun j hj => by rw [L1_lower a (mem_Ioo.1 hj).1], x_eq a z n p hp]
  ring

/-- **L D Lᵀ + forward / diagonal / back substitution solve `A x = b` exactly**, for every `n`,
whenever the pivots `D 0 … D (n−1)` are non-zero. -/
theorem solve_exact (a : ℕ → ℕ → K) (b : ℕ → K) (n : ℕ) (hD : ∀ j < n, D a j ≠ 0) (i : ℕ)
    (hi : i < n) : ∑ j ∈ range n, Afull a i j * sol a b n j = b i := by
  unfold sol
  set z : ℕ → K := fun i => y a b i / D a i with hz
  calc ∑ j ∈ range n, Afull a i j * x a z n j
      = ∑ j ∈ range n, ∑ p ∈ range n, L1 a i p * D a p * (L1 a j p * x a z n j) :=
        sum_congr rfl fun j hj => by
          rw [Afull_eq a n hD i j hi (mem_range.1 hj), sum_mul]
          exact sum_congr rfl fun p _ => by ring
    _ = ∑ p ∈ range n, L1 a i p * D a p * ∑ j ∈ range n, L1 a j p * x a z n j := by
        rw [sum_comm]; exact sum_congr rfl fun p _ => mul_sum .. |>.symm
    _ = ∑ p ∈ range n, L1 a i p * y a b p :=
        sum_congr rfl fun p hp => by
          rw [Lt_x a z n p (mem_range.1 hp), hz, mul_assoc, mul_div_cancel₀ _ (hD p (mem_range.1 hp))]
    _ = b i := by
        rw [sum_range_of_upper_zero _ hi fun p hp => by rw [L1_upper a hp, zero_mul],
          sum_range_succ, L1_self, one_mul, y_eq a b i,
          sum_congr rfl fun p hp => by rw [L1_lower a (mem_range.1 hp)]]
        ring


/-! ### the executable model computes the same functions -/
open Emg.LdltM

theorem sumTo_eq (n : ℕ) (f : ℕ → K) : sumTo n f = ∑ i ∈ range n, f i := by
  induction n with
  | zero => simp [sumTo]
  | succ n ih => rw [sumTo, ih, sum_range_succ]

theorem ldTab_eq (a : ℕ → ℕ → K) (n : ℕ) : ∀ m, (ldTab a n m).f = tab a m := by
  intro m
  induction m with
  | zero => rfl
  | succ m ih =>
    rw [ldTab, mat2_eq, ih]
    funext i k
    simp only [ldStep, tab, sumTo_eq]

theorem fwTab_eq (a : ℕ → ℕ → K) (b : ℕ → K) (n : ℕ) :
    ∀ m, m ≤ n → (fwTab (tab a n) b n m).f = fwdTab a b m := by
  intro m
  induction m with
  | zero => intro _; rfl
  | succ m ih =>
    intro hm
    rw [fwTab, mat1_eq, ih (by omega)]
    funext i
    simp only [fwStep, fwdTab, sumTo_eq]
    split
    · rfl
    · congr 1
      apply sum_congr rfl; intro p hp
      have hp' : p < m := mem_range.1 hp
      rw [tab_eq_L a (by omega)]

theorem bkTab_eq (a : ℕ → ℕ → K) (z z' : ℕ → K) (n : ℕ) (hz : ∀ i < n, z' i = z i) :
    ∀ m, m ≤ n → (bkTab (tab a n) z' n m).f = backTab a z n m := by
  intro m
  induction m with
  | zero => intro _; rfl
  | succ m ih =>
    intro hm
    rw [bkTab, mat1_eq, ih (by omega)]
    funext i
    simp only [bkStep, backTab, sumTo_eq]
    split
    · rfl
    · rw [← Ico_add_one_left_eq_Ioo, sum_Ico_eq_sum_range, hz _ (by omega)]
      congr 1
      apply sum_congr rfl; intro t ht
      have ht' := mem_range.1 ht
      rw [tab_eq_L a (by omega)]

/-- the executable solver computes the function studied above -/
theorem solve_eq_sol (a : ℕ → ℕ → K) (b : ℕ → K) (n : ℕ) :
    LdltM.solve a b n = fun i => backTab a (fun i => y a b i / D a i) n n i := by
  unfold LdltM.solve
  simp only [ldTab_eq, mat1_eq]
  rw [fwTab_eq a b n n (le_refl _)]
  rw [bkTab_eq a (fun i => y a b i / D a i) _ n ?_ n (le_refl _)]
  intro i hi
  congr 1
  · unfold y; rw [fwdTab_stable a b i n hi]
  · exact tab_eq_L a hi i

theorem solve_eq_sol_lt (a : ℕ → ℕ → K) (b : ℕ → K) (n i : ℕ) (hi : i < n) :
    LdltM.solve a b n i = sol a b n i := by
  rw [solve_eq_sol]
  unfold sol x
  simp only
  rw [backTab_stable a _ n i hi n (by omega) (le_refl _)]

theorem pivots_eq (a : ℕ → ℕ → K) (n : ℕ) :
    LdltM.pivots a n = (List.range n).map (D a) := by
  unfold LdltM.pivots
  simp only [ldTab_eq]
  apply List.map_congr_left
  intro j hj
  have : j < n := List.mem_range.1 hj
  exact tab_eq_L a this j

/-- **The solver model returns the exact solution of the symmetric system it is given**
(`full a` = symmetric matrix with lower part `a`), for every size, whenever no pivot is zero. -/
theorem model_solve_exact (a : ℕ → ℕ → K) (b : ℕ → K) (n : ℕ)
    (hp : ∀ d ∈ LdltM.pivots a n, d ≠ 0) (i : ℕ) (hi : i < n) :
    sumTo n (fun j => LdltM.full a i j * LdltM.solve a b n j) = b i := by
  have hD : ∀ j < n, D a j ≠ 0 := by
    intro j hj
    apply hp
    rw [pivots_eq]
    exact List.mem_map.2 ⟨j, List.mem_range.2 hj, rfl⟩
  rw [sumTo_eq, ← solve_exact a b n hD i hi]
  apply sum_congr rfl; intro j hj
  rw [solve_eq_sol_lt a b n j (mem_range.1 hj)]
  rfl

end Emg.Ldlt
