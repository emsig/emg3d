import Emg3dVerif.Model.Hier
/-! The grid hierarchy seen from one direction at a time (`halvings`, `blocked`, `dirAt`,
`stepDir`), and what `lim` and `table` say about the coarsest level.  Core Lean only. -/
namespace MGH

theorem halvings_even {n : Nat} (h : n % 2 = 0) (h2 : 2 < n) : halvings n = halvings (n / 2) + 1 := by
  rw [halvings, dif_pos ⟨h, h2⟩, Nat.add_comm]

theorem halvings_eq_zero_iff (n : Nat) : halvings n = 0 ↔ ¬ (n % 2 = 0 ∧ 2 < n) := by
  rw [halvings]
  split <;> simp_all

/-- after `k ≤ halvings n` halvings the size is `n / 2^k`, still ≥ 2, and `halvings` drops by `k` -/
theorem halvings_iter (k : Nat) : ∀ n, 2 ≤ n → k ≤ halvings n →
    2 ≤ n / 2^k ∧ halvings (n / 2^k) = halvings n - k := by
  induction k with
  | zero => intro n hn _; simpa using hn
  | succ k ih =>
    intro n hn hk
    have hc : n % 2 = 0 ∧ 2 < n := Decidable.not_not.1 (mt (halvings_eq_zero_iff n).2 (by omega))
    have hh := halvings_even hc.1 hc.2
    have := ih (n / 2) (by omega) (by omega)
    rw [Nat.pow_succ, Nat.mul_comm, ← Nat.div_div_eq_div_mul]
    exact ⟨this.1, by omega⟩

/-- the converse of `halvings_iter`: every factor 2 adds a level -/
theorem halvings_mul_two_pow (m : Nat) (hm : 2 ≤ m) : ∀ k, halvings (m * 2 ^ k) = halvings m + k
  | 0 => by rw [Nat.pow_zero, Nat.mul_one, Nat.add_zero]
  | k+1 => by
    have h1 : 2 ≤ m * 2 ^ k := Nat.le_trans hm (Nat.le_mul_of_pos_right m (Nat.two_pow_pos k))
    rw [Nat.pow_succ, ← Nat.mul_assoc, halvings_even (Nat.mul_mod_left ..) (by omega),
      Nat.mul_div_cancel _ (by omega), halvings_mul_two_pow m hm k, Nat.add_assoc]

/-- a direction is blocked iff it is the semicoarsening direction or has no halving left -/
theorem blocked_eq (n : Nat) (e : Bool) : blocked n e = (e || halvings n == 0) := by
  cases e
  · rw [Bool.eq_iff_iff]
    simp only [blocked, Bool.or_false, Bool.or_eq_true, bne_iff_ne, decide_eq_true_eq,
      Bool.false_or, beq_iff_eq, halvings_eq_zero_iff]
    omega
  · simp [blocked]

/-- size of a direction after `l` levels -/
def dirAt (excl : Bool) (n l : Nat) : Nat := if excl then n else n / 2 ^ (min l (halvings n))

/-- one level of coarsening seen from a single direction -/
def stepDir (excl : Bool) (n : Nat) : Nat := if blocked n excl then n else n / 2

/-- the halvings left on level `l` -/
theorem halvings_dirAt (n l : Nat) (hn : 2 ≤ n) : halvings (dirAt false n l) = halvings n - l := by
  have := (halvings_iter (min l (halvings n)) n hn (Nat.min_le_right ..)).2
  simp only [dirAt, Bool.false_eq_true, if_false, this]
  omega

theorem dirAt_ge_two (excl : Bool) (n l : Nat) (hn : 2 ≤ n) : 2 ≤ dirAt excl n l := by
  unfold dirAt
  split
  · exact hn
  · exact (halvings_iter _ n hn (Nat.min_le_right _ _)).1

/-- on level `l` a direction is blocked iff excluded or all its `halvings n` levels are used up -/
theorem blocked_dirAt (excl : Bool) (n l : Nat) (hn : 2 ≤ n) :
    blocked (dirAt excl n l) excl = (excl || decide (halvings n ≤ l)) := by
  cases excl
  · rw [blocked_eq, halvings_dirAt n l hn, Bool.eq_iff_iff]; simp; omega
  · simp [blocked]

theorem stepDir_dirAt (excl : Bool) (n l : Nat) (hn : 2 ≤ n) :
    stepDir excl (dirAt excl n l) = dirAt excl n (l+1) := by
  rw [stepDir, blocked_dirAt excl n l hn]
  cases excl
  · simp only [dirAt, Bool.false_or, decide_eq_true_eq, Bool.false_eq_true, if_false]
    split
    · rw [Nat.min_eq_right ‹_›, Nat.min_eq_right (by omega)]
    · rw [Nat.min_eq_left (by omega), Nat.min_eq_left (by omega), Nat.pow_succ,
        Nat.div_div_eq_div_mul]
  · rfl

theorem lim_none (c : Nat) : lim none c = c := rfl

theorem lim_some (u c : Nat) : lim (some u) c = min u c := by
  simp only [lim]; split <;> omega

theorem lim_le : ∀ (user : Option Nat) (c : Nat), lim user c ≤ c
  | none, c => Nat.le_refl c
  | some u, c => lim_some u c ▸ Nat.min_le_right u c

theorem lim_le_user (u c : Nat) : lim (some u) c ≤ u := lim_some u c ▸ Nat.min_le_left u c

/-- level `l` is at or below the coarsest one iff no non-excluded direction has more levels -/
theorem table_le_iff (c : Nat × Nat × Nat) (l : Nat) : ∀ sc, sc ≤ 3 →
    (table c sc ≤ l ↔ (sc ≠ 1 → c.1 ≤ l) ∧ (sc ≠ 2 → c.2.1 ≤ l) ∧ (sc ≠ 3 → c.2.2 ≤ l))
  | 0, _ | 1, _ | 2, _ | 3, _ => by simp [table, Nat.max_le]

end MGH
