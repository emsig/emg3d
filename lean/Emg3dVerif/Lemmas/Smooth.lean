import Emg3dVerif.Model.Smooth
import Emg3dVerif.Props.C02
set_option linter.unusedSectionVars false
namespace Emg
variable {K : Type} [Field K] [DecidableEq K]

theorem matEF_eq (g : Grid K) (e : EF K) : matEF g e = e := by
  cases e
  simp only [matEF, mat3_eq]

theorem EF.ext_get (a b : EF K) (h : ∀ d, a.get d = b.get d) : a = b :=
  EF.ext_xyz (fun i j k => h ⟨.x, i, j, k⟩) (fun i j k => h ⟨.y, i, j, k⟩) (fun i j k => h ⟨.z, i, j, k⟩)

theorem EF.get_set (e : EF K) (d : Edge) (v : K) (q : Edge) :
    (e.set d v).get q = if q = d then v else e.get q := by
  obtain ⟨dc, di, dj, dk⟩ := d
  obtain ⟨qc, qi, qj, qk⟩ := q
  cases dc <;> cases qc <;> simp [EF.set, EF.get, Edge.mk.injEq]

theorem EF.get_setAll_not_mem (q : Edge) : ∀ (ds : List Edge) (vs : List K) (e : EF K),
    q ∉ ds → (e.setAll ds vs).get q = e.get q := by
  intro ds
  induction ds with
  | nil => intro vs e _; cases vs <;> rfl
  | cons d ds ih =>
    intro vs e hq
    cases vs with
    | nil => rfl
    | cons v vs =>
      simp only [EF.setAll]
      rw [ih vs _ (fun h => hq (List.mem_cons_of_mem _ h)), EF.get_set]
      have : q ≠ d := fun h => hq (h ▸ List.mem_cons_self)
      simp [this]

/-! ### linearity of the rows of the operator -/

theorem EF.get_add (a b : EF K) (d : Edge) : (a.add b).get d = a.get d + b.get d := by
  obtain ⟨c, i, j, k⟩ := d; cases c <;> rfl
theorem EF.get_smul (c : K) (a : EF K) (d : Edge) : (EF.smul c a).get d = c * a.get d := by
  obtain ⟨cc, i, j, k⟩ := d; cases cc <;> rfl

theorem amatAt_add (g : Grid K) (m : VM K) (a b : EF K) (r : Edge) :
    amatAt g m (a.add b) r = amatAt g m a r + amatAt g m b r := by
  rw [amatAt, amat_add, EF.get_add]; rfl

theorem amatAt_smul (g : Grid K) (m : VM K) (c : K) (a : EF K) (r : Edge) :
    amatAt g m (EF.smul c a) r = c * amatAt g m a r := by
  rw [amatAt, amat_smul, EF.get_smul]; rfl

def EF.sub (a b : EF K) : EF K := a.add (EF.smul (-1) b)

theorem EF.get_sub (a b : EF K) (d : Edge) : (a.sub b).get d = a.get d - b.get d := by
  simp only [EF.sub, EF.get_add, EF.get_smul]; ring

theorem amatAt_sub (g : Grid K) (m : VM K) (a b : EF K) (r : Edge) :
    amatAt g m (a.sub b) r = amatAt g m a r - amatAt g m b r := by
  simp only [EF.sub, amatAt_add, amatAt_smul]; ring

/-! ### one block -/

/-- the block system is non-singular: a field supported on the block whose block rows vanish
is zero.  (The documented precondition "diagonals cannot be zero" of the pivot-free solver is a
consequence-side form of this.) -/
def BlockInj (g : Grid K) (m : VM K) (B : List Edge) : Prop :=
  ∀ d : EF K, (∀ q, q ∉ B → d.get q = 0) → (∀ r ∈ B, amatAt g m d r = 0) → ∀ q, d.get q = 0

/-- What `relaxBlock` does: either it fails and returns the field unchanged, or it succeeds, has
written block edges only, and the block's equations hold. -/
theorem relaxBlock_spec (g : Grid K) (m : VM K) (s e : EF K) (B : List Edge) :
    ((relaxBlock g m s e B).2 = false ∧ (relaxBlock g m s e B).1 = e) ∨
    ((relaxBlock g m s e B).2 = true ∧ (∃ x, (relaxBlock g m s e B).1 = e.setAll B x) ∧
      ∀ r ∈ B, amatAt g m (relaxBlock g m s e B).1 r = s.get r) := by
  unfold relaxBlock
  split
  · exact .inl ⟨rfl, rfl⟩
  · rename_i x _
    simp only [matEF_eq]
    split
    · rename_i hc
      refine .inr ⟨rfl, ⟨x, rfl⟩, ?_⟩
      simpa only [blockSolved, List.all_eq_true, decide_eq_true_eq] using hc.2
    · exact .inl ⟨rfl, rfl⟩

/-- **frame**: a block relaxation writes only the block's own edges -/
theorem relaxBlock_frame (g : Grid K) (m : VM K) (s e : EF K) (B : List Edge) (q : Edge)
    (hq : q ∉ B) : (relaxBlock g m s e B).1.get q = e.get q := by
  rcases relaxBlock_spec g m s e B with h | ⟨_, ⟨x, hx⟩, _⟩
  · rw [h.2]
  · rw [hx, EF.get_setAll_not_mem q B x e hq]

/-- **the equations of the relaxed block are satisfied exactly afterwards** -/
theorem relaxBlock_solves (g : Grid K) (m : VM K) (s e : EF K) (B : List Edge)
    (hok : (relaxBlock g m s e B).2 = true) :
    ∀ r ∈ B, amatAt g m (relaxBlock g m s e B).1 r = s.get r := by
  rcases relaxBlock_spec g m s e B with h | h
  · rw [h.1] at hok; cases hok
  · exact h.2.2

/-- a relaxation result is determined by the block equations (uniqueness) -/
theorem block_unique (g : Grid K) (m : VM K) (B : List Edge) (hinj : BlockInj g m B)
    (a b : EF K) (hoff : ∀ q, q ∉ B → a.get q = b.get q)
    (hrow : ∀ r ∈ B, amatAt g m a r = amatAt g m b r) : a = b := by
  apply EF.ext_get
  intro q
  have := hinj (a.sub b) (fun q hq => by rw [EF.get_sub, hoff q hq, sub_self])
    (fun r hr => by rw [amatAt_sub, hrow r hr, sub_self]) q
  rw [EF.get_sub] at this
  exact sub_eq_zero.mp this

/-- **fixed point**: a field that satisfies the block's equations is left unchanged -/
theorem relaxBlock_fixed (g : Grid K) (m : VM K) (s e : EF K) (B : List Edge)
    (hinj : BlockInj g m B) (hsol : ∀ r ∈ B, amatAt g m e r = s.get r) :
    (relaxBlock g m s e B).1 = e := by
  rcases relaxBlock_spec g m s e B with h | ⟨_, _, hs⟩
  · exact h.2
  · exact block_unique g m B hinj _ _ (relaxBlock_frame g m s e B)
      fun r hr => (hs r hr).trans (hsol r hr).symm

/-- **linearity in (field, source)**: sums -/
theorem relaxBlock_add (g : Grid K) (m : VM K) (s1 s2 e1 e2 : EF K) (B : List Edge)
    (hinj : BlockInj g m B)
    (h1 : (relaxBlock g m s1 e1 B).2 = true) (h2 : (relaxBlock g m s2 e2 B).2 = true)
    (h12 : (relaxBlock g m (s1.add s2) (e1.add e2) B).2 = true) :
    (relaxBlock g m (s1.add s2) (e1.add e2) B).1
      = (relaxBlock g m s1 e1 B).1.add (relaxBlock g m s2 e2 B).1 := by
  apply block_unique g m B hinj
  · intro q hq
    rw [relaxBlock_frame _ _ _ _ _ q hq, EF.get_add, EF.get_add,
      relaxBlock_frame _ _ _ _ _ q hq, relaxBlock_frame _ _ _ _ _ q hq]
  · intro r hr
    rw [relaxBlock_solves _ _ _ _ _ h12 r hr, amatAt_add, relaxBlock_solves _ _ _ _ _ h1 r hr,
      relaxBlock_solves _ _ _ _ _ h2 r hr, EF.get_add]

/-- **linearity in (field, source)**: scalar multiples -/
theorem relaxBlock_smul (g : Grid K) (m : VM K) (c : K) (s e : EF K) (B : List Edge)
    (hinj : BlockInj g m B)
    (h1 : (relaxBlock g m s e B).2 = true)
    (hc : (relaxBlock g m (EF.smul c s) (EF.smul c e) B).2 = true) :
    (relaxBlock g m (EF.smul c s) (EF.smul c e) B).1 = EF.smul c (relaxBlock g m s e B).1 := by
  apply block_unique g m B hinj
  · intro q hq
    rw [relaxBlock_frame _ _ _ _ _ q hq, EF.get_smul, EF.get_smul, relaxBlock_frame _ _ _ _ _ q hq]
  · intro r hr
    rw [relaxBlock_solves _ _ _ _ _ hc r hr, amatAt_smul, relaxBlock_solves _ _ _ _ _ h1 r hr,
      EF.get_smul]

/-! ### lists of blocks -/

theorem relaxAll_append (g : Grid K) (m : VM K) (s : EF K) (Bs Cs : List (List Edge)) :
    ∀ st, relaxAll g m s st (Bs ++ Cs) = relaxAll g m s (relaxAll g m s st Bs) Cs := by
  induction Bs with
  | nil => intro st; rfl
  | cons B Bs ih => intro st; obtain ⟨e, ok⟩ := st; simp only [List.cons_append, relaxAll]; exact ih _

theorem relaxAll_flag (g : Grid K) (m : VM K) (s : EF K) (Bs : List (List Edge)) :
    ∀ st, (relaxAll g m s st Bs).2 = true → st.2 = true := by
  induction Bs with
  | nil => intro st h; exact h
  | cons B Bs ih =>
    intro st h; obtain ⟨e, ok⟩ := st
    simp only [relaxAll] at h
    have := ih _ h
    simp only [Bool.and_eq_true] at this
    exact this.1

/-- frame for a list of blocks -/
theorem relaxAll_frame (g : Grid K) (m : VM K) (s : EF K) (q : Edge) (Bs : List (List Edge))
    (hq : ∀ B ∈ Bs, q ∉ B) : ∀ st, (relaxAll g m s st Bs).1.get q = st.1.get q := by
  induction Bs with
  | nil => intro st; rfl
  | cons B Bs ih =>
    intro st; obtain ⟨e, ok⟩ := st
    simp only [relaxAll]
    rw [ih (fun C hC => hq C (List.mem_cons_of_mem _ hC))]
    exact relaxBlock_frame g m s e B q (hq B List.mem_cons_self)

/-- **the equations of the block relaxed last are satisfied exactly afterwards** -/
theorem relaxAll_last_solved (g : Grid K) (m : VM K) (s : EF K) (Bs : List (List Edge))
    (B : List Edge) (st : EF K × Bool) (hok : (relaxAll g m s st (Bs ++ [B])).2 = true) :
    ∀ r ∈ B, amatAt g m (relaxAll g m s st (Bs ++ [B])).1 r = s.get r := by
  rw [relaxAll_append] at hok ⊢
  generalize relaxAll g m s st Bs = st' at hok ⊢
  obtain ⟨e, ok⟩ := st'
  simp only [relaxAll] at hok ⊢
  simp only [Bool.and_eq_true] at hok
  exact relaxBlock_solves g m s e B hok.2

/-- **fixed point**: a field satisfying the equations of all visited blocks is left unchanged -/
theorem relaxAll_fixed (g : Grid K) (m : VM K) (s e : EF K) (Bs : List (List Edge))
    (hinj : ∀ B ∈ Bs, BlockInj g m B)
    (hsol : ∀ B ∈ Bs, ∀ r ∈ B, amatAt g m e r = s.get r) :
    ∀ ok, (relaxAll g m s (e, ok) Bs).1 = e := by
  induction Bs with
  | nil => intro ok; rfl
  | cons B Bs ih =>
    intro ok
    simp only [relaxAll]
    rw [relaxBlock_fixed g m s e B (hinj B List.mem_cons_self) (hsol B List.mem_cons_self)]
    exact ih (fun C hC => hinj C (List.mem_cons_of_mem _ hC))
      (fun C hC => hsol C (List.mem_cons_of_mem _ hC)) _

/-- **linear in (field, source)**: sums -/
theorem relaxAll_add (g : Grid K) (m : VM K) (s1 s2 : EF K) (Bs : List (List Edge))
    (hinj : ∀ B ∈ Bs, BlockInj g m B) :
    ∀ e1 e2 ok1 ok2 ok12,
      (relaxAll g m s1 (e1, ok1) Bs).2 = true → (relaxAll g m s2 (e2, ok2) Bs).2 = true →
      (relaxAll g m (s1.add s2) (e1.add e2, ok12) Bs).2 = true →
      (relaxAll g m (s1.add s2) (e1.add e2, ok12) Bs).1
        = (relaxAll g m s1 (e1, ok1) Bs).1.add (relaxAll g m s2 (e2, ok2) Bs).1 := by
  induction Bs with
  | nil => intro e1 e2 _ _ _ _ _ _; rfl
  | cons B Bs ih =>
    intro e1 e2 ok1 ok2 ok12 h1 h2 h12
    simp only [relaxAll] at h1 h2 h12 ⊢
    have f1 := relaxAll_flag g m s1 Bs _ h1
    have f2 := relaxAll_flag g m s2 Bs _ h2
    have f12 := relaxAll_flag g m (s1.add s2) Bs _ h12
    simp only [Bool.and_eq_true] at f1 f2 f12
    have hB := relaxBlock_add g m s1 s2 e1 e2 B (hinj B List.mem_cons_self) f1.2 f2.2 f12.2
    rw [hB] at h12 ⊢
    exact ih (fun C hC => hinj C (List.mem_cons_of_mem _ hC)) _ _ _ _ _ h1 h2 h12

/-- **linear in (field, source)**: scalar multiples -/
theorem relaxAll_smul (g : Grid K) (m : VM K) (c : K) (s : EF K) (Bs : List (List Edge))
    (hinj : ∀ B ∈ Bs, BlockInj g m B) :
    ∀ e ok okc,
      (relaxAll g m s (e, ok) Bs).2 = true →
      (relaxAll g m (EF.smul c s) (EF.smul c e, okc) Bs).2 = true →
      (relaxAll g m (EF.smul c s) (EF.smul c e, okc) Bs).1
        = EF.smul c (relaxAll g m s (e, ok) Bs).1 := by
  induction Bs with
  | nil => intro e _ _ _ _; rfl
  | cons B Bs ih =>
    intro e ok okc h1 hc
    simp only [relaxAll] at h1 hc ⊢
    have f1 := relaxAll_flag g m s Bs _ h1
    have fc := relaxAll_flag g m (EF.smul c s) Bs _ hc
    simp only [Bool.and_eq_true] at f1 fc
    have hB := relaxBlock_smul g m c s e B (hinj B List.mem_cons_self) f1.2 fc.2
    rw [hB] at hc ⊢
    exact ih (fun C hC => hinj C (List.mem_cons_of_mem _ hC)) _ _ _ h1 hc


end Emg
